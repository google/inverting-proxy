/-
  C06 — retried response uploads are never corrupted.  Property theorems only.
  Part 1: the replay buffer (`bufferedReadSeeker`).  Part 2 (the attempt loop with
  faults and the stale-reader schedule) is in the second half of this file.
-/
import InvProxy.Model.Seeker
import InvProxy.Gen.Skels
import InvProxy.Proofs.Seeker
namespace InvProxy.C06
open InvProxy InvProxy.Seeker InvProxy.Gen

/-- the invariant holds initially and is preserved by every read and every (accepted or
    refused) seek: hence in every reachable state, for every op sequence -/
theorem seeker_inv (cap : Nat) (ops : List Op) : Inv (run (init cap) ops) := by
  exact inv_run (inv_init cap) ops

/-- Within an attempt (since the last accepted seek) the bytes handed to the transport are
    always a prefix of the serialised stream from its first byte: no gap, duplication or
    interleaving — for every read size and every source chunking. -/
theorem attempt_prefix (cap : Nat) (ops : List Op) :
    (run (init cap) ops).sent <+: (run (init cap) ops).hist := by
  exact inv_sent_prefix (inv_run (inv_init cap) ops)

/-- An attempt that has caught up with the source carried the complete stream. -/
theorem attempt_complete (cap : Nat) (ops : List Op)
    (h : (run (init cap) ops).readHead = (run (init cap) ops).buf.length) :
    (run (init cap) ops).sent = (run (init cap) ops).hist := by
  exact inv_sent_complete (inv_run (inv_init cap) ops) h

/-- `Seek(0)` is accepted exactly while the replay buffer is not full … -/
theorem seek_refused_iff (s : St) : seek0 s = none ↔ s.cap ≤ s.buf.length := by
  rw [seek0_spec]
  split <;> simp_all

/-- Once a retry has been refused (more than the replay buffer has gone through) it stays refused for the rest of the
    response, whatever is read or attempted later: a response that outgrew the buffer is never replayed from a
    partial copy. -/
theorem refusal_permanent (s : St) (ops : List Op) (h : seek0 s = none) : seek0 (run s ops) = none := by
  obtain ⟨hc, hb, -⟩ := run_mono s ops
  rw [seek_refused_iff] at h ⊢
  rw [hc]
  exact Nat.le_trans h hb

/-- the source is consumed strictly forwards: no operation (read, accepted or refused seek) ever drops or re-reads what
    the backend's response has already handed over -/
theorem source_history_monotone (s : St) (ops : List Op) : s.hist <+: (run s ops).hist :=
  (run_mono s ops).2.2

/-- … and then everything sent so far can be replayed in full: a retry happens only while
    the already-sent prefix is still held (fewer than `cap` = 4096 bytes were read). -/
theorem retry_only_if_replayable (cap : Nat) (ops : List Op) (s' : St)
    (h : seek0 (run (init cap) ops) = some s') :
    s'.buf = s'.hist ∧ s'.hist.length < cap ∧ s'.readHead = 0 ∧ s'.sent = [] ∧ s'.hist = (run (init cap) ops).hist := by
  have hinv := inv_run (inv_init cap) ops
  have hcap : (run (init cap) ops).cap = cap := (run_mono (init cap) ops).1
  rw [seek0_spec] at h
  split at h
  · cases h
  · rename_i hc
    injection h with h
    subst h
    have hbuf := hinv.not_full (by omega)
    refine ⟨hbuf, ?_, rfl, rfl, rfl⟩
    show (run (init cap) ops).hist.length < cap
    rw [← hbuf]; omega

/-- the replay limit in the code is the documented 4 KiB, and at most 1 + 2 attempts are made -/
theorem replay_constants : utils_readResponseBufSize = 4096 ∧ utils_maxWriteResponseRetryCount = 2 := ⟨rfl, rfl⟩

/-- The known defect (D5): when the previous attempt's reader is still alive during the
    retry, it steals source bytes from the new attempt — the acknowledged upload has a gap.
    Here: attempt 1 read `[1,2]` and failed early; after the seek the new attempt replays
    `[1,2]`, the stale reader takes `[3,4]`, the new attempt continues with `[5,6]`. -/
theorem stale_reader_counterexample :
    let s := (seek0 (run (init 8) [.read 2 [1, 2]])).getD (init 8)
    newAttemptReceives s [(true, 2, []), (false, 2, [3, 4]), (true, 2, [5, 6])] = [1, 2, 5, 6] ∧
    (run s [.read 2 [], .read 2 [3, 4], .read 2 [5, 6]]).hist = [1, 2, 3, 4, 5, 6] := by decide

/-- T3: the retry loop makes one `client.Do` per iteration with at most 1 + 2 iterations, seeks
    back before every retry, and does NOT wait for the previous attempt's body reader (there
    is no synchronisation between `client.Do` returning and `Seek`): this is the variant
    under which `stale_reader_counterexample` applies. -/
theorem retry_loop_shape :
    utils_maxWriteResponseRetryCount = 2 ∧
    Skel.count (.call "client.Do") skel_utils_postResponseWithRetries = 1 ∧
    Skel.count (.call "proxyReadSeeker.Seek") skel_utils_postResponseWithRetries = 2 ∧
    Skel.precedes (.call "client.Do") (.call "proxyReadSeeker.Seek") skel_utils_postResponseWithRetries = true ∧
    Skel.count (.call "newBufferedReadSeeker") skel_utils_postResponseWithRetries = 1 := by decide +kernel

/-- T3: when the upload goroutine ends (all attempts failed, or success) it closes its end of
    the pipe, the serialiser propagates the resulting write error to the handler
    (`CloseWithError`), both goroutines always close their error channels (capacity 1, at
    most one send each), and `Close` drains both: no handler `Write` or `Close` can block
    forever on a dead upload. -/
theorem handler_unblocked_shape :
    Skel.calls "proxyReader.Close" skel_utils_NewResponseForwarder = true ∧
    Skel.calls "rw.CloseWithError" skel_utils_NewResponseForwarder = true ∧
    Skel.calls "proxyWriter.Close" skel_utils_NewResponseForwarder = true ∧
    Skel.chanCap "postErrChan" skel_utils_NewResponseForwarder = some 1 ∧
    Skel.chanCap "writeErrChan" skel_utils_NewResponseForwarder = some 1 ∧
    Skel.count (.send "postErrChan") skel_utils_NewResponseForwarder = 1 ∧
    Skel.count (.send "writeErrChan") skel_utils_NewResponseForwarder = 1 ∧
    Skel.closes "postErrChan" skel_utils_NewResponseForwarder = true ∧
    Skel.closes "writeErrChan" skel_utils_NewResponseForwarder = true ∧
    Skel.recvs "r.postErrChan" skel_utils_responseForwarder_Close = true ∧
    Skel.recvs "r.writeErrChan" skel_utils_responseForwarder_Close = true := by decide +kernel

-- non-vacuity: a replay across the buffer boundary
example : (run (init 4) [.read 3 [1,2,3], .seek, .read 2 [], .read 5 [4,5,6]]).sent = [1,2,3,4,5,6] := by decide
example : seek0 (run (init 4) [.read 3 [1,2,3], .read 3 [4,5]]) = none := by decide

-- non-vacuity: a 4-byte buffer, 5 bytes read: refused now and after further reads and seeks
example : seek0 (run (init 4) [.read 5 [1, 2, 3, 4, 5]]) = none ∧ seek0 (run (init 4) [.read 5 [1, 2, 3, 4, 5], .seek, .read 1 [6], .seek]) = none := by decide

end InvProxy.C06
