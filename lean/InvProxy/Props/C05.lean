/-
  C05 — responses stream through the agent chunk by chunk.  Property theorems only.
-/
import InvProxy.Model.Stream
import InvProxy.Proofs.Stream
namespace InvProxy.C05
open InvProxy InvProxy.Stream InvProxy.Gen

/-- nothing is lost, duplicated or reordered on the way: in every reachable state the bytes
    at the proxy, in the stages and still to come concatenate to the backend's stream —
    for every chunk count and every chunk size -/
theorem stream_conservation (chunks : List Bytes) (acts : List Act) (s : St)
    (h : run .rendezvous (start chunks) acts = some s) : stream s = chunks.flatten := by
  rw [run_stream h, stream_start]

/-- Progress without further input: as long as some flushed chunk has not reached the proxy,
    an internal step is enabled — no stage waits for more output or for the response to end … -/
theorem stream_progress_enabled (chunks : List Bytes) (hne : ∀ c ∈ chunks, c ≠ []) (acts : List Act) (s : St)
    (h : run .rendezvous (start chunks) acts = some s) (hc : caughtUp s = false) : internalEnabled .rendezvous s = true := by
  -- holds in every state, reachable or not, and for empty chunks too
  have _ := hne; have _ := h
  exact enabled_of_not_caughtUp s hc

/-- … and every internal step strictly decreases the measure (at most 4 + 3 + 2 + 1 steps per
    chunk in flight): each flushed chunk reaches the proxy within a bounded number of steps. -/
theorem stream_progress_decreases (s s' : St) (a : Act) (ha : a ≠ .feed) (h : step .rendezvous s a = some s') : mu s' < mu s :=
  (step_spec h).2 ha

/-- Lock-step producers never deadlock: once everything flushed so far has arrived, the
    backend's next flush is accepted at once. -/
theorem stream_lockstep (s : St) (c : Bytes) (t : List Bytes) (ht : s.todo = c :: t) (hc : caughtUp s = true) :
    ∃ s', step .rendezvous s .feed = some s' := by
  obtain ⟨todo, s1, acc, s2, s3, up⟩ := s
  cases s1 with
  | some x => simp [caughtUp] at hc
  | none => cases ht; exact ⟨_, rfl⟩

/-- when the agent is caught up the proxy holds exactly the chunks flushed so far -/
theorem caught_up_means_delivered (chunks : List Bytes) (acts : List Act) (s : St)
    (h : run .rendezvous (start chunks) acts = some s) (hc : caughtUp s = true) :
    s.uploaded.flatten ++ s.todo.flatten = chunks.flatten := by
  rw [← stream_of_caughtUp s hc, run_stream h, stream_start]

/-- what a buffering stage would do: a flushed chunk smaller than the threshold never
    reaches the proxy, although the backend waits for it to be observed -/
theorem stream_buffering_counterexample :
    (run (.buffering 4096) (start [[1, 2, 3], [4]]) [.feed, .ser]).map (fun s => (internalEnabled (.buffering 4096) s, s.uploaded, caughtUp s)) =
      some (false, [], false) := by decide

/-- T1/T3: the handler's `Write` is a write to the unbuffered body pipe, the serialiser writes
    the (forced chunked) response straight into the unbuffered upload pipe, and the reverse
    proxy flushes at most 100 ms after a backend write. -/
theorem no_buffering_stage :
    utils_srwWriteIsPipeWrite = true ∧ utils_forwarderForcesChunked = true ∧ utils_forwarderWritesToPipe = true ∧
    agent_flushInterval = 100000000 ∧
    Skel.calls "w.bodyWriter.Write" skel_utils_srw_Write = true := ⟨rfl, rfl, rfl, rfl, by decide +kernel⟩

/-- regenerated fact: no timeout is configured on the transports between the agent and the backend (HTTP/1.1 or forced
    HTTP/2): a response may pause for any length of time between chunks and still be relayed (an idle or ping
    timeout there would close the backend connection in the pause and end the relayed response early) -/
theorem backend_transport_has_no_timeouts : agent_backendTransportTimeouts = [] := rfl

/-- regenerated fact: on GCE the periodic refresh of the VM identity token fetches the new token *before* taking the
    transport's lock; every request to the proxy (also the upload that streams a response) takes that lock to read
    the token, so a slow or failing metadata server cannot hold back chunks that the backend has already flushed -/
theorem identity_refresh_does_not_block_uploads : utils_identityRefreshFetchesUnderLock = false := rfl

-- non-vacuity
example : (run .rendezvous (start [[1], [2, 3]]) [.feed, .ser, .put, .rd, .send, .feed, .ser, .put, .rd, .send]).map (·.uploaded) = some [[1], [2, 3]] := by decide

end InvProxy.C05
