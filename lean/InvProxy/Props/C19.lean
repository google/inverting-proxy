/-
  C19 — the App Engine proxy relays each request and its response intact.  Property theorems only.
  Part 1: blob storage.
-/
import InvProxy.Model.Blob
import InvProxy.Proofs.Blob
import InvProxy.Gen.Skels
namespace InvProxy.C19
open InvProxy InvProxy.Blob InvProxy.Gen

/-- Stored requests and responses of any size — below, at and above the 1,000,000-byte
    inline and part limits — read back byte-identical. -/
theorem blob_roundtrip (bs : Bytes) : (newBlob bs).read = bs := by
  unfold newBlob
  split
  · simp [Blob.read]
  · simp only [Blob.read, writeParts_flatten, List.take_append_drop]

/-- the stored form is injective: two different payloads are never stored as the same blob -/
theorem blob_injective (a b : Bytes) (h : newBlob a = newBlob b) : a = b := by
  rw [← blob_roundtrip a, ← blob_roundtrip b, h]

/-- nothing is padded or dropped: the bytes held inline and in the parts add up to the payload length -/
theorem blob_total_length (bs : Bytes) :
    (newBlob bs).inlined.length + ((newBlob bs).parts.map List.length).sum = bs.length := by
  have h := congrArg List.length (blob_roundtrip bs)
  simpa [Blob.read, List.length_flatten] using h

/-- every entity stays within the datastore field limit -/
theorem part_sizes (bs : Bytes) :
    (newBlob bs).inlined.length ≤ store_fieldByteLimit ∧ ∀ p ∈ (newBlob bs).parts, p.length ≤ store_fieldByteLimit := by
  unfold newBlob
  split
  · rename_i h
    have h' : bs.length < store_fieldByteLimit := of_decide_eq_true h
    exact ⟨Nat.le_of_lt h', fun p hp => nomatch hp⟩
  · refine ⟨?_, writeParts_sizes _⟩
    rw [List.length_take]
    exact Nat.min_le_left _ _

/-- small payloads are stored inline, without part entities -/
theorem small_inline (bs : Bytes) (h : bs.length < store_fieldByteLimit) : newBlob bs = { inlined := bs, parts := [] } := by
  have h' : store_inlineTest bs.length = true := decide_eq_true h
  unfold newBlob
  rw [if_pos h']

/-- number of part entities written for a payload at or above the limit -/
theorem part_count (bs : Bytes) (h : store_fieldByteLimit ≤ bs.length) :
    (newBlob bs).parts.length = (bs.length - store_fieldByteLimit) / store_fieldByteLimit + 1 := by
  have h' : store_inlineTest bs.length = false := decide_eq_false (Nat.not_lt.2 h)
  unfold newBlob
  rw [h']
  simp only [Bool.false_eq_true, if_false]
  rw [writeParts_eq, List.length_map, List.length_range, List.length_drop]

/-- T1 (what `Blob.writeParts` assumes of the loop in `writeBlobParts`): every iteration names its
    part and puts it, with nothing conditional in between — also for the empty last part of a
    payload whose length is an exact multiple of the limit (`part_count` counts it, `blob.read`
    fetches it). -/
theorem every_named_part_is_put : store_everyNamedPartIsPut = true := rfl

/-- … and that empty last part really occurs: a payload of exactly `2·limit` bytes has two parts, the second one empty. -/
theorem exact_multiple_has_empty_last_part :
    store_partCount store_fieldByteLimit = 2 ∧ store_partBounds 1 store_fieldByteLimit = (store_fieldByteLimit, store_fieldByteLimit) := by
  decide

/-! ### storage errors never leave a call hanging: the error channels of concurrent writers -/

/-- `n` writer goroutines finish in some order; each sends at most one error (`true` = its write failed) into a
    channel of capacity `cap` that is only read after all writers are done.  Result: (errors buffered, writers
    blocked for ever in their send). -/
def fanIn (cap : Nat) (fails : List Bool) : Nat × Nat :=
  fails.foldl (fun (s : Nat × Nat) f => if f then (if s.1 < cap then (s.1 + 1, s.2) else (s.1, s.2 + 1)) else s) (0, 0)

/-- one slot per writer: no writer ever blocks, whichever writes fail and in whatever order they finish -/
theorem no_writer_blocks (cap : Nat) (fails : List Bool) (h : fails.length ≤ cap) : (fanIn cap fails).2 = 0 := by
  -- with `b` errors buffered there are as many free slots as writers still to come
  suffices ∀ b, b + fails.length ≤ cap → (fails.foldl _ (b, 0)).2 = 0 from this 0 (by omega)
  clear h
  induction fails with
  | nil => exact fun _ _ => rfl
  | cons f fs ih =>
    intro b hb
    rw [List.length_cons] at hb
    cases f
    · exact ih b (by omega)
    · rw [List.foldl_cons, if_pos rfl, if_pos (by omega)]; exact ih (b + 1) (by omega)

/-- with fewer slots than failing writers one of them blocks for ever (and `wg.Wait` with it) -/
theorem too_few_slots_block : (fanIn 1 [true, true]).2 = 1 := by decide

/-- regenerated facts: `writeBlobParts` gives its error channel one slot per part writer, and `postResponse`'s two
    concurrent store writes report into a channel of capacity 2 (D11) - so by `no_writer_blocks` a storage error in
    any subset of the concurrent writes still lets the call return -/
theorem error_channels_have_a_slot_per_writer :
    store_partErrsSlotPerWriter = true ∧
    Skel.chanCap "notFoundErrs" skel_app_responseHandler = some 2 ∧
    Skel.count (.wait "wg") skel_app_postResponse = 1 := by decide +kernel

/-- regenerated fact: `blob.read` concatenates the parts in the order the blob lists them, which is the order
    `writeBlobParts` named them in (index order) - `blob_roundtrip` is about exactly that order.  (Ordering the
    names as strings instead would put "part10" before "part2": wrong from the eleventh part on.) -/
theorem read_keeps_part_order : store_readKeepsStoredPartOrder = true := rfl

/-- why string order is not index order: the decimal names of 2 and 10 -/
example : decide (("part10" : String) < "part2") = true := by decide

theorem limits : store_fieldByteLimit = 1000000 ∧ cache_cacheEntrySizeLimit = 1000000 := ⟨rfl, rfl⟩

end InvProxy.C19
