/-
  C03 — the client receives the backend's response unaltered.  Property theorems only.
-/
import InvProxy.Model.RespPath
import InvProxy.Proofs.RespPath
namespace InvProxy.C03
open InvProxy InvProxy.RespPath InvProxy.Gen

/-- the set of hop-by-hop field names of the agent is the documented one -/
theorem hop_table : utils_hopHeaders.length = 9 ∧ utils_hopHeaders.all (fun k => Go.canon k == k) = true :=
  ⟨rfl, List.all_eq_true.mpr fun k hk => beq_iff_eq.mpr (hop_canonical k hk)⟩

/-- interim responses: exactly the 1xx codes other than 101 are ignored -/
theorem interim_ignored (c : Int) : utils_srwIgnoresStatus c = true ↔ (100 ≤ c ∧ c ≤ 199 ∧ c ≠ 101) := by
  unfold utils_srwIgnoresStatus
  simp only [Bool.and_eq_true, decide_eq_true_eq, bne_iff_ne, ge_iff_le, ne_eq]
  omega

/-- The response status is the first final status the handler writes — interim (1xx)
    responses before it do not become the status — or 200 when the body comes first. -/
theorem srw_final_status (ops : List HOp) : (output ops).status = finalStatus ops := by
  rw [output_eq]

/-- the body is exactly the concatenation of the handler's writes, for any chunking -/
theorem srw_body (ops : List HOp) : (output ops).body = bodyOf ops := by
  rw [output_eq]

/-- Hop-by-hop fields never reach the client, neither as headers nor as trailers — for
    handlers that keep `http.Header`'s invariant of canonical keys (as `ReverseProxy` does:
    it copies with `Header.Add` and prefixes canonical trailer names).  Without that
    precondition the statement is false, because the writer tests the raw key and only
    canonicalises it when storing (`RespPath.srw_hop_filtered_orig_false_hdr/_trailer`). -/
theorem srw_hop_filtered (ops : List HOp) (k : Bytes) (hk : k ∈ utils_hopHeaders)
    (hcan : ∀ p ∈ headerAtHead [] ops, Go.canon p.1 = p.1) (hsc : SuffixCanon (headerAtClose ops)) :
    Hdr.values (output ops).hdr k = [] ∧ Hdr.values (output ops).trailer k = [] := by
  rw [output_eq]; exact ⟨filter_hop _ k hcan hk, trailer_hop _ _ k hsc hk⟩

/-- Every end-to-end header field present when the head is fixed is forwarded with all its
    values in order (repeated fields such as Set-Cookie included). -/
theorem srw_headers_preserved (ops : List HOp) (k : Bytes) (hk : k ∉ utils_hopHeaders)
    (hwf : WF (headerAtHead [] ops)) :
    Hdr.values (output ops).hdr k = Hdr.values (headerAtHead [] ops) k := by
  rw [output_eq]; exact filter_preserved _ k hwf hk

/-- Declared trailers — any number of them, announced one per `Trailer` value or several in
    one comma-separated value — are delivered as trailers with the values the handler set. -/
theorem srw_declared_trailers (ops : List HOp) (v t : Bytes)
    (hv : v ∈ Hdr.Values (headerAtHead [] ops) [84,114,97,105,108,101,114])
    (ht : t ∈ (Go.split v [44]).map (fun k => Go.canon (Go.trimSpace k)))
    (hne : t ≠ []) (hh : t ∉ utils_hopHeaders)
    (hnp : ∀ k ∈ (headerAtClose ops).map (·.1), Go.cutPrefix2 k trailerPrefix ≠ (t, true))
    (hc : Go.canon t = t) (hsc : SuffixCanon (headerAtClose ops)) :
    Hdr.values (output ops).trailer t = Hdr.values (headerAtClose ops) t := by
  have _ := hc  -- not needed: a declared name is canonical
  rw [output_eq]
  exact trailer_declared _ _ t (decl_mem _ v t hv ht hne hh) fun p hp hf he =>
    hnp p.1 (List.mem_map_of_mem hp) (Prod.ext ((hsc p hp hf).symm.trans he) hf)

/-- Known finding `C03:trailer-altered:same-name-as-header` (kernel-checked on the model, reproduced on every run
    against the real code): a field the backend sends both as a header and, with another value, as a declared
    trailer.  ReverseProxy hands the trailer value over by *adding* it under the same key, and `Close` takes every
    value of a declared key, so the header's value is delivered a second time, as a trailer.  The
    `http.ResponseWriter` interface gives the writer no way to tell the two apart (a handler may also replace the
    value), so this is recorded, not repaired. -/
theorem same_name_trailer_counterexample :
    (output [.setHeader [84,114,97,105,108,101,114] [88,45,66], .setHeader [88,45,66] [104], .writeHeader 200, .write [1],
             .addHeader [88,45,66] [116]]).trailer = [([88,45,66], [[104], [116]])] := by decide

/-- Undeclared trailers (`Trailer:`-prefixed keys, how ReverseProxy passes unannounced
    trailers) are delivered as trailers too. -/
theorem srw_undeclared_trailers (ops : List HOp) (t : Bytes) (hh : t ∉ utils_hopHeaders)
    (hnd : t ∉ (utils_srwDeclareTrailers (headerAtHead [] ops)).map (·.1))
    (hwf : WF (headerAtClose ops)) (hsc : SuffixCanon (headerAtClose ops)) :
    Hdr.values (output ops).trailer t = Hdr.values (headerAtClose ops) (trailerPrefix ++ t) := by
  rw [output_eq]; exact trailer_undeclared _ _ t hh hnd hwf.1 hsc

/-- T: the streamed response owns its header and trailer maps (no map is shared between the
    handler goroutine and the serialising goroutine), so the response emitted under any
    timing of header/body/trailer production is the sequential `output`. -/
theorem no_shared_maps : utils_srwHeaderAliased = false ∧ utils_srwTrailerShared = false := by decide

/-- the stand-alone proxy forwards every non-hop-by-hop header field of the uploaded
    response and announces chunked transfer; hop-by-hop fields are dropped -/
theorem proxy_copy_headers (r : Resp) (k : Bytes) (hwf : WF r.hdr) (hk : server_isHopByHopHeader k = false)
    (hte : k ≠ Go.canon [116,114,97,110,115,102,101,114,45,101,110,99,111,100,105,110,103]) :
    Hdr.values (proxyCopy r).hdr k = Hdr.values r.hdr k := by
  have _ := hte  -- not needed: that name is hop-by-hop, so `hk` excludes it
  exact values_copyH r.hdr k hwf.1 hk

/-- … and passes the trailers on as trailers (`Trailer:`-prefixed header fields set after the body) -/
theorem proxy_copy_trailers (r : Resp) (t : Bytes) (hwf : WF r.trailer) (ht : server_isHopByHopHeader t = false) (hc : Go.canon t = t)
    (hin : t ∈ r.trailer.map (·.1)) :
    Hdr.values (proxyCopy r).after (Go.canon (trailerPrefix ++ t)) =
      Hdr.values (proxyCopy r).hdr (Go.canon (trailerPrefix ++ t)) ++ Hdr.values r.trailer t := by
  have _ := hc; have _ := hin  -- not needed: `Trailer:`-prefixed names are never rewritten by `Go.canon`
  exact values_copyT_trailer r.trailer _ t hwf.1 ht

/-- End to end (agent writer → wire → proxy copy), under the standard-library clauses:
    same final status, same body, every end-to-end header value in order. -/
theorem resp_fidelity (wire : Resp → Resp) (hs : StdRespSpec wire) (ops : List HOp) (k : Bytes)
    (hk : k ∉ utils_hopHeaders) (hk2 : server_isHopByHopHeader k = false)
    (hfr : k ∉ [[67,111,110,116,101,110,116,45,76,101,110,103,116,104], [84,114,97,110,115,102,101,114,45,69,110,99,111,100,105,110,103], [84,114,97,105,108,101,114]])
    (hwf : WF (headerAtHead [] ops)) (hwf2 : WF (output ops).hdr) (hwf3 : WF (output ops).trailer) :
    (proxyCopy (wire (output ops))).status = finalStatus ops ∧
    (proxyCopy (wire (output ops))).body = bodyOf ops ∧
    Hdr.values (proxyCopy (wire (output ops))).hdr k = Hdr.values (headerAtHead [] ops) k := by
  have hw := hs.wf (output ops) hwf2 hwf3
  refine ⟨?_, ?_, ?_⟩
  · show (wire (output ops)).status = _
    rw [hs.status, srw_final_status]
  · show (wire (output ops)).body = _
    rw [hs.body, srw_body]
  · exact (values_copyH _ k hw.1.1 hk2).trans (by rw [hs.hdr _ k hfr, srw_headers_preserved ops k hk hwf])

/-- T1 (wiring the response-path model assumes): the stand-alone proxy serves its proxy handler
    directly.  The agent's upload of a backend response is the *request* body of
    `POST agent/response`, so any request-side wrapper in `main` (size cap, timeout handler, body
    rewriting) would act on backend responses. -/
theorem server_serves_proxy_directly : server_servedHandler = "newProxy()" := by decide

-- non-vacuity: 103 then 200, two declared trailers in one value, an undeclared trailer, a hop-by-hop header
example : output [.setHeader [76,105,110,107] [120], .writeHeader 103, .delHeader [76,105,110,107],
    .setHeader [84,114,97,105,108,101,114] [88,45,65,44,32,88,45,66], .setHeader [67,111,110,110,101,99,116,105,111,110] [120],
    .writeHeader 200, .write [1], .setHeader [88,45,65] [97], .setHeader [88,45,66] [98],
    .setHeader (trailerPrefix ++ [88,45,67]) [99]] =
  { status := 200, hdr := [], body := [1], trailer := [([88,45,67], [[99]]), ([88,45,65], [[97]]), ([88,45,66], [[98]])] } := by decide

end InvProxy.C03
