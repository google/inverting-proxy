/-
  C18 — the App Engine proxy routes to the most specific live backend.  Property theorems only.
-/
import InvProxy.Model.Route
import InvProxy.Proofs.Route
namespace InvProxy.C18
open InvProxy InvProxy.Route InvProxy.Gen

/-- Glue (tie T): the definition regenerated from store.go is the readable fold. -/
theorem gen_eq_model (path : Bytes) (bs : List Backend) :
    store_mostSpecificMatchingBackend path bs = mostSpecific path bs := by
  exact gen_eq_mostSpecific path bs

/-- Longest matching prefix; among equally long matches the first in (backend, prefix)
    order wins.  Backend IDs are non-empty (`parseBackend` rejects empty IDs). -/
theorem longest_prefix (path : Bytes) (bs : List Backend) (hid : ∀ b ∈ bs, b.BackendID ≠ []) (id : Bytes)
    (h : mostSpecific path bs = some id) :
    ∃ i, IsBest (matching path bs) i ∧ ((matching path bs)[i]?).map (·.1) = some id := by
  obtain ⟨r, hr, rfl⟩ := mostSpecific_some hid h
  obtain ⟨i, h1, h2⟩ := hr.isBest
  exact ⟨i, h1, by rw [h2, Option.map_some]⟩

theorem none_iff_no_match (path : Bytes) (bs : List Backend) (hid : ∀ b ∈ bs, b.BackendID ≠ []) :
    mostSpecific path bs = none ↔ matching path bs = [] := by
  rcases mostSpecific_cases path bs hid with ⟨h1, h2⟩ | ⟨r, h1, h2⟩
  · simp [h1, h2]
  · simp [h2, List.ne_nil_of_mem h1.mem]

/-- the chosen backend is registered and owns a prefix of the path -/
theorem chosen_is_registered (path : Bytes) (bs : List Backend) (hid : ∀ b ∈ bs, b.BackendID ≠ []) (id : Bytes)
    (h : mostSpecific path bs = some id) :
    ∃ b ∈ bs, b.BackendID = id ∧ ∃ q ∈ b.PathPrefixes, q <+: path := by
  obtain ⟨r, hr, rfl⟩ := mostSpecific_some hid h
  obtain ⟨b, hbm, h1, h2, h3⟩ := mem_matching.1 hr.mem
  exact ⟨b, hbm, h1, r.2, h2, h3⟩

/-- an empty prefix matches every path -/
theorem empty_prefix_matches_all (path : Bytes) (bs : List Backend) (hid : ∀ b ∈ bs, b.BackendID ≠ [])
    (b : Backend) (hb : b ∈ bs) (he : [] ∈ b.PathPrefixes) : (mostSpecific path bs).isSome := by
  cases hm : mostSpecific path bs with
  | some _ => rfl
  | none =>
    have hmem : (b.BackendID, ([] : Bytes)) ∈ matching path bs :=
      mem_matching.2 ⟨b, hb, rfl, he, List.nil_prefix⟩
    rw [(none_iff_no_match path bs hid).1 hm] at hmem
    cases hmem

/-- Glue (tie T2): the hand-written `lookup`/`lookupShared` are the decisions regenerated from
    `persistentStore.LookupBackend` / `lookupSharedBackend`, applied to the most specific match
    among the user's (resp. the allUsers) backends and to the liveness test.  A change such as
    "fall back to the shared backends when the user's own match is not live" breaks this. -/
theorem gen_lookupShared_eq (s : Store) (path : Bytes) (now : Int) :
    lookupShared s path now =
      store_lookupSharedBackend false (mostSpecific path (ofUser s store_sharedBackendUser)) (fun b => live s b now) none := by
  unfold lookupShared store_lookupSharedBackend
  cases mostSpecific path (ofUser s store_sharedBackendUser) <;> simp [Id.run, pure] <;> split <;> rfl

theorem gen_lookup_eq (s : Store) (user path : Bytes) (now : Int) :
    lookup s user path now =
      store_LookupBackend false (mostSpecific path (ofUser s user)) (fun b => live s b now) (lookupShared s path now) := by
  unfold lookup store_LookupBackend
  cases mostSpecific path (ofUser s user) <;> simp [Id.run, pure] <;> split <;> rfl

/-- a datastore error while listing the backends is a 404, never a guess -/
theorem query_error_routes_nowhere (m : Option Bytes) (lv : Bytes → Bool) (sh : Option Bytes) :
    store_LookupBackend true m lv sh = none ∧ store_lookupSharedBackend true m lv sh = none := by
  simp [store_LookupBackend, store_lookupSharedBackend, Id.run, pure]

/-- T1: `proxyHandler` routes on the decoded URL path, so every escaped spelling of a path is
    routed alike ("the choice depends only on backends, user and path"). -/
theorem routes_on_decoded_path : app_lookupPathArg = "r.URL.Path" := rfl

/-- a user's own match always takes precedence: shared backends are not consulted -/
theorem user_before_shared (s : Store) (user path : Bytes) (now : Int) (b : Bytes)
    (h : mostSpecific path (ofUser s user) = some b) :
    lookup s user path now = if live s b now then some b else none := by
  simp [lookup, h]

/-- shared backends are used exactly when the user has no matching prefix -/
theorem shared_fallback (s : Store) (user path : Bytes) (now : Int)
    (h : mostSpecific path (ofUser s user) = none) :
    lookup s user path now = lookupShared s path now := by
  simp [lookup, h]

/-- only backends of the user or shared with all users are ever chosen -/
theorem routed_backend_owner (s : Store) (user path : Bytes) (now : Int) (id : Bytes)
    (hid : ∀ b ∈ s.backends, b.BackendID ≠ [])
    (h : lookup s user path now = some id) :
    ∃ b ∈ s.backends, b.BackendID = id ∧ (b.EndUser = user ∨ b.EndUser = store_sharedBackendUser) := by
  rcases (lookup_some h).1 with h1 | h1 <;> obtain ⟨b, hb, h2, h3⟩ := mostSpecific_ofUser hid h1
  · exact ⟨b, hb, h2, Or.inl h3⟩
  · exact ⟨b, hb, h2, Or.inr h3⟩

/-- liveness window: a routed backend was seen less than `backendTimeout` (5 min) ago -/
theorem liveness_window (s : Store) (user path : Bytes) (now : Int) (id : Bytes)
    (h : lookup s user path now = some id) :
    ∃ t, s.lastSeen id = some t ∧ now - t < 300000000000 := by
  have hl := (lookup_some h).2
  unfold live at hl
  split at hl
  · next t ht =>
    refine ⟨t, ht, ?_⟩
    have := of_decide_eq_true hl
    simpa [store_backendTimeout] using this
  · cases hl

/-- a dead best match yields 404 — there is no fall-back to the second best -/
theorem dead_best_is_404 (s : Store) (user path : Bytes) (now : Int) (b : Bytes)
    (h : mostSpecific path (ofUser s user) = some b) (hd : live s b now = false) :
    lookup s user path now = none := by
  simp [lookup, h, hd]

/-- the choice depends only on (backends, last-seen times, user, path, now) — `lookup` is a
    function of exactly these — and not on the tracker of any other backend -/
theorem deterministic (s s' : Store) (user path : Bytes) (now : Int)
    (hb : s.backends = s'.backends) (hl : ∀ b ∈ s.backends, s.lastSeen b.BackendID = s'.lastSeen b.BackendID)
    (hid : ∀ b ∈ s.backends, b.BackendID ≠ []) :
    lookup s user path now = lookup s' user path now := by
  refine (lookup_congr (by simp only [ofUser, hb]) (by simp only [ofUser, hb]) fun u id hm => ?_).symm
  obtain ⟨b, hb', h1, _⟩ := mostSpecific_ofUser hid hm
  simp only [live, ← h1, hl b hb']

/-- Tenant isolation of the routing decision: registering, changing or removing a backend that belongs to some *other*
    user (neither the requesting user nor the shared `allUsers` owner), at any position of the datastore listing, never
    changes where this user's request is routed — for every path, time and store. -/
theorem other_users_backends_irrelevant (s : Store) (pre post : List Backend) (extra : Backend) (user path : Bytes) (now : Int)
    (hs : s.backends = pre ++ post)
    (h1 : (extra.EndUser == user) = false) (h2 : (extra.EndUser == store_sharedBackendUser) = false) :
    lookup { s with backends := pre ++ extra :: post } user path now = lookup s user path now := by
  exact lookup_congr (by simp [ofUser, hs, List.filter_append, h1]) (by simp [ofUser, hs, List.filter_append, h2])
    fun _ _ _ => rfl

/-- what proxyHandler answers with, as a function of the order of its two look-ups -/
inductive Answer where
  | notFound | fromCache | forward (backend : Bytes)
  deriving DecidableEq, Repr

def handlerAnswer (lookupFirst : Bool) (route : Option Bytes) (isGet cached : Bool) : Answer :=
  if lookupFirst then
    match route with
    | none => .notFound
    | some b => if isGet && cached then .fromCache else .forward b
  else if isGet && cached then .fromCache
  else match route with
    | none => .notFound
    | some b => .forward b

/-- regenerated fact: in proxyHandler the routing decision (s.LookupBackend) comes before the first call that can
    answer the client (readCachedResponse / memcache.Get / forwardResponse) -/
theorem routing_precedes_every_answer : app_lookupPrecedesAnswers = true := rfl

/-- hence, without a live matching backend the answer is 404 whatever earlier requests left in the cache -/
theorem no_route_is_404 (isGet cached : Bool) :
    handlerAnswer app_lookupPrecedesAnswers none isGet cached = .notFound := by
  simp [routing_precedes_every_answer, handlerAnswer]

/-- with the other order the same request would be answered from the cache (why the order matters) -/
theorem cache_first_counterexample : handlerAnswer false none true true = .fromCache := by decide

-- non-vacuity
example : mostSpecific [47,97,47,98] [⟨[49],[],[117],[[47],[47,97]]⟩, ⟨[50],[],[117],[[47,97,47]]⟩] = some [50] := by decide
example : mostSpecific [47,97,47,98] [⟨[49],[],[117],[[47,97]]⟩, ⟨[50],[],[117],[[47,97]]⟩] = some [49] := by decide
example : mostSpecific [47,120] [⟨[49],[],[117],[[47,97]]⟩] = none := by decide

end InvProxy.C18
