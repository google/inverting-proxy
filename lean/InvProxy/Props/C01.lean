/-
  C01 — every client gets the response to its own request, never another's.  Property theorems only.
-/
import InvProxy.Model.Relay
import InvProxy.Proofs.Relay
namespace InvProxy.C01
open InvProxy InvProxy.Relay InvProxy.Gen

/-- With an atomic ID draw, in every reachable state of every interleaving of client
    arrivals, fetches, backend completions, uploads and deliveries: a delivered response
    was produced from the receiving client's own request. -/
theorem relay_correlation (s : St) (h : Reachable .atomic s) (c tok : Cid) (hd : (c, tok) ∈ s.delivered) : tok = c :=
  (inv_reachable h).deliv c tok hd

/-- Each client receives at most one response. -/
theorem relay_at_most_one (s : St) (h : Reachable .atomic s) : (s.delivered.map (·.1)).Nodup :=
  (inv_reachable h).dnodup

/-- A fetch under an ID returns the request of the client registered under that ID, and the
    registration never changes afterwards. -/
theorem fetch_returns_own (s : St) (h : Reachable .atomic s) (w : Wid) (r : Rid) (c : Cid)
    (hf : (w, r, c) ∈ s.fetched) : lookup s.pending r = some c :=
  (inv_reachable h).fetched w r c hf

/-- request IDs are unique among registered requests -/
theorem ids_unique (s : St) (h : Reachable .atomic s) : (s.pending.map (·.1)).Nodup ∧ ∀ p ∈ s.pending, p.1 < s.next :=
  ⟨(inv_reachable h).nodup, (inv_reachable h).lt⟩

/-- The safety theorems above are not vacuous for lack of behaviour: in *every* state (however many other requests are
    pending, fetched, uploaded or delivered, and whatever this worker fetched before) a client without a pending request
    can be served — arrive, fetch under the new ID, upload, deliver all are enabled in turn and the client receives
    the response produced from its own request. -/
theorem fresh_client_can_be_served (s : St) (c : Cid) (w : Wid)
    (hp : c ∉ s.pending.map (·.2)) (hd : c ∉ s.delivered.map (·.1)) :
    ∃ s', run .atomic s [.arrive c, .fetch w s.next, .upload w, .deliver s.next] = some s' ∧
      s'.delivered = (c, c) :: s.delivered := by
  simp [run, step, hp, hd, lookup]

/-- With the unsynchronised generator two concurrent clients can draw the same ID; the
    later registration overwrites the earlier one and client 2 receives the response
    produced for client 1's request (the defect found in the original code). -/
theorem racy_duplicates_counterexample :
    (run .racy init [.read 1, .read 2, .advance 1, .fetch 7 0, .advance 2, .upload 7, .deliver 0]).map (·.delivered) =
      some [(2, 1)] := by decide

/-- T3: the code is in the `atomic` variant — the generator and the map are only touched
    under the proxy mutex, in `newID`, `ServeHTTP` and both agent handlers; the response
    rendezvous is the pending request's own unbuffered channel. -/
theorem id_generation_serialised :
    Skel.guarded "p" "p.randGenerator" skel_server_newID = true ∧
    Skel.guarded "p" "p.requests" skel_server_ServeHTTP = true ∧
    Skel.guarded "p" "p.requests" skel_server_handleAgentGetRequest = true ∧
    Skel.guarded "p" "p.requests" skel_server_handleAgentPostResponse = true ∧
    Skel.calls "p.newID" skel_server_ServeHTTP = true ∧
    Skel.count (.access "p.randGenerator") skel_server_ServeHTTP = 0 ∧
    server_respChanCap = 0 ∧
    Skel.count (.send "pending.respChan") skel_server_handleAgentPostResponse = 1 ∧
    Skel.count (.recv "pending.respChan") skel_server_ServeHTTP = 1 := by decide +kernel

/-- T1: request IDs are derived from a draw on a generator that is seeded from the clock when the proxy process
    starts, so two proxy instances do not hand out the same ID sequence.  (The agent and the requests it has at the
    backend outlive a proxy process; the isolation theorems above are per instance and assume unique IDs, which a
    per-instance counter would satisfy while making the upload for an old request hit a new client's ID.
    The `restart` suite replays exactly that history against the real binaries.) -/
theorem request_ids_drawn_from_per_process_seed :
    server_requestIDDraw = "p.randGenerator.Int63()" ∧ server_requestIDSeed = "time.Now().UnixNano()" := ⟨rfl, rfl⟩

-- non-vacuity: a correct run with two clients answered out of order
example : (run .atomic init [.arrive 5, .arrive 6, .fetch 1 1, .fetch 2 0, .upload 1, .deliver 1, .upload 2, .deliver 0]).map (·.delivered) =
    some [(5, 5), (6, 6)] := by decide

end InvProxy.C01
