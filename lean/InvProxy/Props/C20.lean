/-
  C20 — agent lifecycle: health gating, unhealthy exit, graceful shutdown.  Property theorems only.
-/
import InvProxy.Model.Lifecycle
import InvProxy.Proofs.Lifecycle
namespace InvProxy.C20
open InvProxy InvProxy.Lifecycle InvProxy.Gen

/-- With health checks enabled the agent does not ask the proxy for work until a health
    check has succeeded: in every run, as long as no check has passed, no list call was started. -/
theorem no_poll_before_healthy (cfg : Cfg) (hh : cfg.healthEnabled = true) (evs : List Lifecycle.Ev) (s : St)
    (h : run cfg (init cfg) evs = some s) (hn : Lifecycle.Ev.check true ∉ evs) : s.listsStarted = 0 ∧ s.phase ≠ .running := by
  have h0 : Unstarted (init cfg) := by simp [Unstarted, init, hh]
  obtain ⟨hp, hl⟩ := run_unstarted cfg evs _ s h0 h hn
  refine ⟨hl, ?_⟩
  rcases hp with hp | ⟨c, hp⟩ <;> simp [hp]

/-- T3: `main` calls `waitForHealthy` before it starts the adapter goroutine (and before the
    monitor), and the adapter is the only place the polling loop is started from. -/
theorem gate_precedes_polling :
    Skel.precedes (.call "waitForHealthy") (.call "runAdapter") skel_agent_main = true ∧
    Skel.precedes (.call "waitForHealthy") (.call "runHealthChecks") skel_agent_main = true ∧
    Skel.calls "pollForNewRequests" skel_agent_runAdapter = true ∧
    Skel.calls "pollForNewRequests" skel_agent_main = false := by decide +kernel

/-- the gate returns at the first passing check -/
theorem gate_first_pass (hist : List Bool) (k : Nat) :
    gate hist = some k ↔ (0 < k ∧ k ≤ hist.length ∧ hist[k - 1]? = some true ∧ ∀ j, j < k - 1 → hist[j]? = some false) := by
  cases k with
  | zero => simp [gate_eq]
  | succ n =>
    simp only [gate_eq, Option.map_eq_some_iff, Nat.add_right_cancel_iff, exists_eq_right,
      List.findIdx?_eq_some_iff_getElem, List.getElem?_eq_some_iff, id, Bool.not_eq_true, Nat.add_sub_cancel]
    exact ⟨fun ⟨h, h1, h2⟩ => ⟨n.succ_pos, h, ⟨h, h1⟩, fun j hj => ⟨Nat.lt_trans hj h, h2 j hj⟩⟩,
      fun ⟨_, h, ⟨_, h1⟩, h2⟩ => ⟨h, h1, fun j hj => (h2 j hj).2⟩⟩

/-- a single success resets the count; the threshold is clamped to at least 1 -/
theorem success_resets (bad : Int) : agent_healthCount false bad = 0 :=
  healthCount_false bad
theorem failure_counts (bad : Int) : agent_healthCount true bad = bad + 1 :=
  healthCount_true bad
theorem threshold_clamped (t : Int) : 1 ≤ agent_healthClamp t ∧ (1 ≤ t → agent_healthClamp t = t) :=
  ⟨healthClamp_ge t, healthClamp_id t⟩

/-- with no failed check on the count the exit test is false for every configured threshold -/
theorem exit_zero (threshold : Int) : agent_healthExit 0 (agent_healthClamp threshold) = false := by
  have h := (threshold_clamped threshold).1
  simp [agent_healthExit]
  omega

/-- The agent terminates itself at check k exactly when the last `t` checks up to k all
    failed and no earlier window of `t` consecutive failures exists (t = the configured
    threshold, clamped to at least 1) — for every health history and every threshold. -/
theorem unhealthy_exit_iff (threshold : Int) (hist : List Bool) (k : Nat) :
    monitor threshold hist = some k ↔
      (failedWindow hist (agent_healthClamp threshold).toNat k = true ∧ k ≤ hist.length ∧
       ∀ j, j < k → failedWindow hist (agent_healthClamp threshold).toNat j = false) := by
  rw [monitor, monitorFrom_eq _ _ _ _ (exit_zero threshold)]
  simp only [Nat.add_zero, Option.map_id', List.findIdx?_eq_some_iff_getElem, exit_counts, Bool.not_eq_true,
    length_counts, Nat.lt_succ_iff, exists_prop]
  exact and_left_comm

theorem healthy_never_exits_from (threshold : Int) (k : Nat) (hist : List Bool) (h : ∀ b ∈ hist, b = true) :
    monitorFrom threshold 0 k hist = none := by
  induction hist generalizing k with
  | nil => rfl
  | cons b t ih =>
    have hb : b = true := h b (by simp)
    subst hb
    simp only [monitorFrom, Bool.not_true, success_resets, exit_zero]
    exact ih (k + 1) (fun b hb => h b (by simp [hb]))

/-- A backend whose health checks all pass is never abandoned: for every threshold (also 0 or negative, which the clamp
    turns into 1) and every length of history the monitor does not make the agent exit. -/
theorem healthy_never_exits (threshold : Int) (hist : List Bool) (h : ∀ b ∈ hist, b = true) :
    monitor threshold hist = none := healthy_never_exits_from threshold 0 hist h

/-- Graceful shutdown: once the signal has been handled no new pending-list poll starts —
    the one in flight may return (and its IDs are still forwarded), then the loop stops. -/
theorem graceful_no_new_polls (cfg : Cfg) (s s' : St) (e : Lifecycle.Ev) (hc : s.cancelled = true) (h : step cfg s e = some s') :
    s'.listsStarted = s.listsStarted ∧ s'.cancelled = true := by
  cases e with
  | check ok =>
    cases hp : s.phase <;>
      simp only [step, hp, Run.ite_eq_some, Option.some.injEq, reduceCtorEq, and_false, false_or] at h
    · obtain ⟨-, rfl⟩ | ⟨-, rfl⟩ := h <;> exact ⟨rfl, hc⟩
    all_goals obtain ⟨-, ⟨-, rfl⟩ | ⟨-, rfl⟩⟩ := h <;> exact ⟨rfl, hc⟩
  | signal =>
    cases hp : s.phase <;> simp only [step, hp, Run.ite_eq_some, Option.some.injEq, reduceCtorEq] at h
    · exact h ▸ ⟨rfl, hc⟩
    · obtain ⟨-, rfl⟩ | ⟨-, rfl⟩ := h
      · exact ⟨rfl, hc⟩
      · exact ⟨rfl, rfl⟩
  | loopStep =>
    simp only [step, hc, Run.ite_eq_some, Option.some.injEq, reduceCtorEq, and_false, false_or, not_true_eq_false,
      false_and, or_false] at h
    exact h.2.2 ▸ ⟨rfl, rfl⟩
  | _ =>
    simp only [step, Run.ite_eq_some, Option.some.injEq, reduceCtorEq, and_false, or_false] at h
    exact h.2 ▸ ⟨rfl, hc⟩

theorem signal_cancels (cfg : Cfg) (hg : 0 < cfg.grace) (s s' : St) (hr : s.phase = .running) (h : step cfg s .signal = some s') :
    s'.cancelled = true ∧ s'.phase = .draining ∧ s'.workers = s.workers := by
  have hg' : cfg.grace ≠ 0 := by omega
  simp only [step, hr, hg', if_false, Option.some.injEq] at h
  subst h; simp

/-- … a request already forwarded to the backend is not affected by the cancellation: its
    completion step stays enabled throughout the grace period (workers never see the polling context) … -/
theorem graceful_inflight_completes (cfg : Cfg) (s : St) (hd : s.phase = .draining) (hw : 0 < s.workers) :
    ∃ s', step cfg s .workerDone = some s' ∧ s'.answered = s.answered + 1 ∧ s'.phase = .draining := by
  have ha : alive s = true := by simp [alive, hd]
  refine ⟨{ s with workers := s.workers - 1, answered := s.answered + 1 }, ?_, rfl, hd⟩
  simp [step, ha, hw]

theorem workers_do_not_see_polling_context : agent_pollingCtxName ∉ agent_workerArgs := by
  simp [agent_pollingCtxName, agent_workerArgs]

/-- … and the process exits when the period ends, not before (short of an unhealthy exit). -/
theorem graceful_exit (cfg : Cfg) (s s' : St) (e : Lifecycle.Ev) (hd : s.phase = .draining) (h : step cfg s e = some s')
    (hx : s'.phase ≠ .draining) : (e = .graceElapsed ∧ s'.phase = .exited 1) ∨ (∃ ok, e = .check ok ∧ s'.phase = .exited 1) := by
  cases e <;> simp only [step, alive, hd, Run.ite_eq_some, Option.some.injEq, reduceCtorEq, and_false, or_false,
    false_or] at h
  case check ok =>
    obtain ⟨-, ⟨-, rfl⟩ | ⟨-, rfl⟩⟩ := h
    · exact .inr ⟨ok, rfl, rfl⟩
    · exact absurd rfl hx
  case graceElapsed => exact .inl ⟨rfl, h.2 ▸ rfl⟩
  case loopStep => obtain ⟨-, ⟨-, rfl⟩ | ⟨-, rfl⟩⟩ := h <;> exact absurd rfl hx
  all_goals exact absurd (h.2 ▸ rfl) hx

/-- without the option the agent exits promptly on the signal -/
theorem prompt_exit_without_option (cfg : Cfg) (hg : cfg.grace = 0) (s : St) (hr : s.phase = .running) :
    step cfg s .signal = some { s with phase := .exited 0 } := by
  simp [step, hr, hg]

/-- … also while the agent is still waiting for its backend to come up (with or without the
    grace option): no handler is installed yet, so the signal's default action ends the process -/
theorem signal_during_gate_exits (cfg : Cfg) (s : St) (hg : s.phase = .gating) :
    step cfg s .signal = some { s with phase := .exited 2 } := by
  simp [step, hg]

/-- T3 for the line above: `main` installs the signal handler (`utils.ShutdownSignalChan`, i.e.
    `signal.Notify`) only after `waitForHealthy` has returned — a handler installed earlier would
    swallow a signal that arrives during the health gate, because the channel is read only later. -/
theorem handler_installed_after_gate :
    Skel.precedes (.call "waitForHealthy") (.call "utils.ShutdownSignalChan") skel_agent_main = true ∧
    Skel.count (.call "utils.ShutdownSignalChan") skel_agent_main = 1 := by decide +kernel

/-- T3: in `main` the signal is awaited before the polling context is cancelled, the cancel
    precedes the grace sleep, and the sleep precedes the exit -/
theorem shutdown_order :
    Skel.precedes (.recv "osShutdownSignalCh") (.call "requestPollingCancel") skel_agent_main = true ∧
    Skel.precedes (.call "requestPollingCancel") (.call "time.Sleep") skel_agent_main = true ∧
    Skel.recvs "pollingCtx.Done()" skel_agent_pollForNewRequests = true := by decide +kernel

-- non-vacuity
example : monitor 2 [true, false, true, false, false, true] = some 5 := by decide
example : monitor 0 [true, true, false] = some 3 := by decide
example : gate [false, false, true, false] = some 3 := by decide
example : (run ⟨true, 2, 3⟩ (init ⟨true, 2, 3⟩) [.check false, .check true, .loopStep, .listReturns 1, .loopStep, .signal, .listReturns 0, .loopStep, .workerDone, .graceElapsed]).map
    (fun s => (s.phase, s.listsStarted, s.answered)) = some (.exited 1, 2, 1) := by decide

end InvProxy.C20
