/-
  C10 — session tracking hides backend cookies and never mixes sessions.  Property theorems only.
-/
import InvProxy.Model.Sessions
import InvProxy.Model.Dedup
import InvProxy.Proofs.Sessions
import InvProxy.Proofs.SessionWriter
namespace InvProxy.C10
open InvProxy InvProxy.Sessions InvProxy.Gen InvProxy.SessionWriter

variable {J U SC C : Type}

/-- The cookies sent on to the backend are exactly the client's own cookies other than the
    session cookie, followed by what the session's jar holds for the request URL — and in
    particular never the session cookie itself. -/
theorem backend_cookies (ops : JarOps J U SC C) (cfg : Cfg) (c : Cache J) (url : U) (cookies : List (Bytes × Bytes)) :
    (request ops cfg c url cookies).2.2 =
      (cookies.filter (fun k => k.1 ≠ cfg.cookieName)).map (fun k => BackendCookie.client k.1 k.2) ++
      (if sessionOf cfg cookies = [] then []
       else (ops.get ((find c.entries (sessionOf cfg cookies)).getD ops.empty) url).map BackendCookie.jar) := by
  simp only [request]
  split
  · simp
  · rfl

/-- What the websocket shim copies into `resource.headers` of the messages of a data request (header injection
    enabled): the cookies of that request as its handler sees them - after the session handler when the data
    handler is wrapped by it, the client's raw cookies otherwise. -/
def injectedCookies (ops : JarOps J U SC C) (cfg : Cfg) (c : Cache J) (url : U) (cookies : List (Bytes × Bytes))
    (wrapped : Bool) : List (BackendCookie C) :=
  if wrapped then (request ops cfg c url cookies).2.2 else cookies.map (fun k => BackendCookie.client k.1 k.2)

theorem session_cookie_never_forwarded (ops : JarOps J U SC C) (cfg : Cfg) (c : Cache J) (url : U) (cookies : List (Bytes × Bytes))
    (v : Bytes) : BackendCookie.client cfg.cookieName v ∉ (request ops cfg c url cookies).2.2 := by
  rw [backend_cookies]
  intro h
  rcases List.mem_append.mp h with h | h
  · obtain ⟨k, hk, he⟩ := List.mem_map.mp h
    injection he with h1
    exact of_decide_eq_true (List.mem_filter.mp hk).2 h1
  · split at h
    · cases h
    · obtain ⟨_, _, he⟩ := List.mem_map.mp h
      cases he

/-- The session cookie does not reach the backend inside injected message headers either: data requests pass the
    session handler (regenerated fact about createShimChannel), which replaces it by the session's cookies. -/
theorem session_cookie_never_injected (ops : JarOps J U SC C) (cfg : Cfg) (c : Cache J) (url : U)
    (cookies : List (Bytes × Bytes)) (v : Bytes) :
    (BackendCookie.client cfg.cookieName v : BackendCookie C) ∉ injectedCookies ops cfg c url cookies websockets_dataRequestsPassSessionHandler := by
  rw [injectedCookies, show websockets_dataRequestsPassSessionHandler = true from rfl, if_pos rfl]
  exact session_cookie_never_forwarded ops cfg c url cookies v

/-- without the wrapper the session cookie is copied into the messages (defect D25, repaired) -/
theorem unwrapped_data_handler_leaks (ops : JarOps J U SC C) (cfg : Cfg) (c : Cache J) (url : U) (v : Bytes) :
    (BackendCookie.client cfg.cookieName v : BackendCookie C) ∈ injectedCookies ops cfg c url [(cfg.cookieName, v)] false := by
  simp [injectedCookies]

/-- The only cookie a client can receive is the agent's own session cookie, and it is
    issued exactly to clients that presented none. -/
theorem only_session_cookie (ops : JarOps J U SC C) (c : Cache J) (s fresh : Sid) (url : U) (sc : List SC) :
    (response ops c s fresh url sc).2 = if s = [] then some fresh else none := by
  rfl

/-- … at the level of the response header the writer edits (regenerated slice of
    `sessionResponseWriter.WriteHeader`, early exits included): whatever `Set-Cookie` values the
    backend put there — parseable by Go's cookie parser or not, any number of them — afterwards
    the field holds nothing on an interim response, and on the final one exactly the session
    cookie if the request carried none, and nothing otherwise. -/
theorem set_cookie_header_exact (status : Int) (noSession : Bool) (sc : Bytes) (parsed : Nat) (h : Hdr) :
    Hdr.Values (sessions_writeHeaderEdits false status noSession sc parsed h) [83,101,116,45,67,111,111,107,105,101] =
      if isInterim status then [] else if noSession then [sc] else [] := by
  rw [writeHeaderEdits_eq]
  cases isInterim status
  · cases noSession
    · exact Hdr.values_del_self ..
    · exact (Hdr.values_add_self ..).trans (congrArg (· ++ [sc]) (Hdr.values_del_self ..))
  · exact Hdr.values_del_self ..

/-- every other response header field is left alone, on every path through the function -/
theorem other_response_headers_kept (wrote : Bool) (status : Int) (noSession : Bool) (sc : Bytes) (parsed : Nat) (h : Hdr) (k : Bytes)
    (hk : k ≠ Go.canon [83,101,116,45,67,111,111,107,105,101]) :
    Hdr.values (sessions_writeHeaderEdits wrote status noSession sc parsed h) k = Hdr.values h k := by
  rw [writeHeaderEdits_eq]
  cases wrote
  · cases isInterim status
    · cases noSession
      · exact Hdr.values_del_ne _ _ _ hk
      · exact (Hdr.values_add_ne _ _ _ _ hk).trans (Hdr.values_del_ne _ _ _ hk)
    · exact Hdr.values_del_ne _ _ _ hk
  · rfl

/-- non-vacuity: 103 is interim; 101 (websocket upgrade through the session handler) and 200 are final -/
example : isInterim 103 = true ∧ isInterim 101 = false ∧ isInterim 200 = false ∧ isInterim 99 = false := by decide

theorem marks_written_after_interim_exit : sessions_marksWrittenAfterInterimExit = true := rfl

/-- Any number of interim responses does not consume the final header: after interim calls
    `pre` and a final call `(f, h)` (and whatever calls follow), the wrapped writer has received
    every interim call, then the final status `f` with exactly the session cookie or no cookie —
    and nothing after it. -/
theorem interim_then_final (noSession : Bool) (sc : Bytes) (parsed : Nat) (pre : List (Int × Hdr)) (f : Int) (h : Hdr)
    (post : List (Int × Hdr))
    (hpre : ∀ p ∈ pre, isInterim p.1 = true) (hf : isInterim f = false) :
    let w := (Writer.mk false []).calls noSession sc parsed (pre ++ (f, h) :: post)
    w.wrote = true ∧ w.sent.map (·.1) = pre.map (·.1) ++ [f] ∧
    (∀ p ∈ w.sent, Hdr.Values p.2 [83,101,116,45,67,111,111,107,105,101] =
        if isInterim p.1 then [] else if noSession then [sc] else []) := by
  intro w
  rw [show w = _ from calls_interim_final noSession sc parsed pre f h post hpre hf []]
  refine ⟨rfl, ?_, fun p hp => ?_⟩
  · simp only [List.nil_append, List.map_map, List.map_append]; rfl
  · obtain ⟨q, -, rfl⟩ := List.mem_map.mp hp
    exact set_cookie_header_exact ..

/-- attributes of that cookie (regenerated from the literal in sessions.go): Path=/,
    HttpOnly, Secure unless the test override is set -/
theorem session_cookie_attrs :
    sessions_cookieAttrs false = ([47], true, true) ∧ sessions_cookieAttrs true = ([47], false, true) := ⟨rfl, rfl⟩

/-- Isolation: a response in one session leaves the jar of every other cached session untouched. -/
theorem isolation (ops : JarOps J U SC C) (c : Cache J) (s fresh : Sid) (url : U) (sc : List SC) (s' : Sid)
    (hne : s' ≠ (if s = [] then fresh else s))
    (hin : s' ∈ keys (response ops c s fresh url sc).1) :
    find (response ops c s fresh url sc).1.entries s' = find c.entries s' := by
  exact (find_step ops ⟨[]⟩ c (.resp s fresh url sc) s' hin).trans (if_neg fun e => hne (Option.some.inj e).symm)

/-- likewise a request never changes the contents of any jar -/
theorem request_keeps_jars (ops : JarOps J U SC C) (cfg : Cfg) (c : Cache J) (url : U) (cookies : List (Bytes × Bytes)) (s' : Sid)
    (hin : s' ∈ keys (request ops cfg c url cookies).1) (hne : s' ≠ sessionOf cfg cookies ∨ s' ∈ keys c) :
    find (request ops cfg c url cookies).1.entries s' = find c.entries s' := by
  rw [request_fst] at hin ⊢
  by_cases h0 : sessionOf cfg cookies = []
  · rw [if_pos h0]
  · rw [if_neg h0] at hin ⊢
    rw [find_getOrCreate ops c _ s' hin]
    split
    · next hs =>
      -- the session of the request: cached before, and `getOrCreate` hands out the jar found
      obtain ⟨j, hj⟩ := Option.isSome_iff_exists.mp ((find_isSome_iff c.entries s').2 (hne.resolve_left (absurd hs)))
      rw [getOrCreate_snd, ← hs, hj]; rfl
    · rfl

/-- the cache keys evolve exactly like the keys-only LRU of `Base/Lru` -/
theorem keys_are_lru (ops : JarOps J U SC C) (cfg : Cfg) (cap : Nat) (h : List (Op U SC)) :
    keys (run ops cfg { cap := cap, entries := [] } h) = Lru.after cap (touches cfg h) := by
  exact keys_run ops cfg cap h

/-- the cache never holds more than `cap` sessions — for every history of requests and responses, with or without
    session cookies -/
theorem cache_bounded (ops : JarOps J U SC C) (cfg : Cfg) (cap : Nat) (hc : 0 < cap) (h : List (Op U SC)) :
    (keys (run ops cfg { cap := cap, entries := [] } h)).length ≤ cap := by
  rw [keys_are_lru, Lru.after_eq_take_recency cap hc, List.length_take]
  exact Nat.min_le_left _ _

/-- Refinement to the per-session jar map: as long as every session is touched again
    before `cap` other distinct sessions were (the "among the most recently used" clause),
    the jar used for a session is exactly an independent jar fed with that session's own
    responses — never cookies of another session, for every interleaving of the request
    and response steps of any number of sessions. -/
theorem sessions_refine (ops : JarOps J U SC C) (cfg : Cfg) (cap : Nat) (hc : 0 < cap) (h : List (Op U SC))
    (hw : Dedup.WindowOK cap (touches cfg h)) (s : Sid) (hs : s ∈ touches cfg h) (hlast : s ∈ keys (run ops cfg { cap := cap, entries := [] } h)) :
    find (run ops cfg { cap := cap, entries := [] } h).entries s = some (refJar ops cfg s h) := by
  exact find_run_eq_refJar ops cfg cap hc h hw s hlast

/-- under the window condition a touched session is never evicted before its next use -/
theorem session_survives (ops : JarOps J U SC C) (cfg : Cfg) (cap : Nat) (hc : 0 < cap) (pre : List (Op U SC)) (op : Op U SC) (post : List (Op U SC))
    (hw : Dedup.WindowOK cap (touches cfg (pre ++ op :: post))) (s : Sid) (ht : Op.touched cfg op = some s) (hs : s ∈ touches cfg pre) :
    s ∈ keys (run ops cfg { cap := cap, entries := [] } pre) := by
  rw [keys_are_lru]
  have e : touches cfg (pre ++ op :: post) = (touches cfg pre ++ [s]) ++ touches cfg post := by
    simp [touches, List.filterMap_append, ht]
  rw [e] at hw
  exact Dedup.mem_after_of_window hc hw.prefix hs

/-- T3: every access to the LRU happens under the cache mutex, in one critical section
    (lookup and insertion are not separable): concurrent requests can neither corrupt the
    cache nor create two jars for one session. -/
theorem cache_mutex :
    Skel.guarded "c.mu" "c.cache" skel_sessions_cachedCookieJar = true ∧
    Skel.guarded "c.mu" "c.cache" skel_sessions_addJarToCache = true ∧
    Skel.count (.lock "c.mu") skel_sessions_cachedCookieJar = 1 ∧
    Skel.calls "c.addJarToCache" skel_sessions_cachedCookieJar = false := by decide +kernel

end InvProxy.C10
