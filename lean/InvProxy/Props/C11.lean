/-
  C11 — shimmed websockets deliver every message once, in order, unchanged.  Property theorems only.
-/
import InvProxy.Model.WsCodec
import InvProxy.Model.WsRelay
import InvProxy.Proofs.WsCodec
import InvProxy.Proofs.WsRelay
namespace InvProxy.C11
open InvProxy InvProxy.WsCodec InvProxy.WsRelay InvProxy.Gen

/-- binary payloads survive the base64 transport encoding of protocol version 1, for all byte strings -/
theorem b64_roundtrip (bs : Bytes) : b64dec (b64enc bs) = some bs := by
  fun_induction b64enc bs with
  | case1 => rfl
  | case2 a => exact b64dec_tail1 a
  | case3 a b => exact b64dec_tail2 a b
  | case4 a b c t ih => exact b64dec_group a b c ih

/-- what the server-side shim serialises is decoded by the client-message decoder to the
    same message: type and payload unchanged, text and binary -/
theorem client_codec (m : Msg) : decodeClient (serialize m) = .msg m := by
  cases m with
  | text d => rfl
  | binary d => simp only [serialize, decodeClient, b64_roundtrip]

/-- Exactly once, in order: at every point of every interleaving of producer and consumer
    steps — any batching, any number of messages beyond the channel capacity — what has been
    delivered, what is buffered and what is still to be sent concatenate to the original
    sequence. -/
theorem relay_invariant {μ : Type} (cap : Nat) (msgs : List μ) (acts : List Act) (s : St μ)
    (h : run (start cap msgs) acts = some s) : s.done ++ s.chan ++ s.todo = msgs :=
  run_inv acts (start cap msgs) s (by simp [start]) h

/-- hence the peer always holds a prefix of what was sent … -/
theorem relay_prefix {μ : Type} (cap : Nat) (msgs : List μ) (acts : List Act) (s : St μ)
    (h : run (start cap msgs) acts = some s) : s.done <+: msgs :=
  ⟨s.chan ++ s.todo, by rw [← List.append_assoc]; exact run_inv acts (start cap msgs) s (by simp [start]) h⟩

/-- … and everything once the queues are empty. -/
theorem relay_complete {μ : Type} (cap : Nat) (msgs : List μ) (acts : List Act) (s : St μ)
    (h : run (start cap msgs) acts = some s) (h1 : s.chan = []) (h2 : s.todo = []) : s.done = msgs := by
  have := run_inv (msgs := msgs) acts (start cap msgs) s (by simp [start]) h
  simpa [h1, h2] using this

/-- what has been delivered is never retracted or rewritten: along every run the delivered sequence only grows at its end -/
theorem relay_delivered_monotone {μ : Type} (acts : List Act) (s s' : St μ) (h : run s acts = some s') : s.done <+: s'.done :=
  run_done_prefix acts s s' h

/-- batching is immaterial: a poll that takes k buffered messages at once leaves exactly the state that k single
    receives leave — for every k and every state -/
theorem relay_poll_batching_immaterial {μ : Type} (k : Nat) (s : St μ) (h1 : 1 ≤ k) (h2 : k ≤ s.chan.length) :
    step s (.drain k) = run s (List.replicate k .deq) :=
  drain_eq_deqs k s h1 h2

/-- runs compose: a relay observed in two stretches behaves as in one -/
theorem relay_run_append {μ : Type} (a b : List Act) (s : St μ) :
    run s (a ++ b) = (run s a).bind (fun s1 => run s1 b) :=
  run_append a b s

/-- the buffer never exceeds the channel capacity (10 in the code) -/
theorem relay_bounded {μ : Type} (cap : Nat) (msgs : List μ) (acts : List Act) (s : St μ)
    (h : run (start cap msgs) acts = some s) : s.chan.length ≤ max cap 1 := by
  have hb := run_bounded acts (start cap msgs) s (by simp [start]) h
  rw [run_cap acts (start cap msgs) s h] at hb
  exact hb

/-- no deadlock and bounded progress: while something is undelivered some step is enabled,
    and every step strictly decreases `2·|todo| + |chan|` -/
theorem relay_progress {μ : Type} (s : St μ) (hne : s.todo ≠ [] ∨ s.chan ≠ []) :
    ∃ a s', step s a = some s' ∧ 2 * s'.todo.length + s'.chan.length < 2 * s.todo.length + s.chan.length :=
  progress s hne

/-- T3: both relay channels have capacity 10, the reader goroutine is the only sender on
    `serverMessages` and closes it exactly once on exit. -/
theorem relay_shape :
    Skel.chanCap "serverMessages" skel_websockets_NewConnection = some 10 ∧
    Skel.chanCap "clientMessages" skel_websockets_NewConnection = some 10 ∧
    Skel.count (.send "serverMessages") skel_websockets_NewConnection = 1 ∧
    Skel.count (.close "serverMessages") skel_websockets_NewConnection = 1 ∧
    Skel.sends "conn.serverMessages" skel_websockets_Connection_ReadServerMessages = false := by decide +kernel

/-! ### header injection -/

theorem inject_path : websockets_injectedHeadersPath = [resourceKey, headersKey] := rfl

/-- only JSON objects holding an object at `resource.headers` are changed -/
theorem inject_none_unless_target (hs : List (Bytes × Bytes)) (v : J) :
    (inject hs v).isSome ↔ ∃ top res hdrs, v = .obj top ∧ lookup resourceKey top = some (.obj res) ∧ lookup headersKey res = some (.obj hdrs) := by
  constructor
  · intro h
    unfold inject at h
    split at h
    · rename_i top
      split at h
      · rename_i res hres
        split at h
        · rename_i hdrs hh
          exact ⟨top, res, hdrs, rfl, hres, hh⟩
        · simp at h
      · simp at h
    · simp at h
  · rintro ⟨top, res, hdrs, rfl, h1, h2⟩
    simp [inject, h1, h2]

/-- header fields already present are kept, absent ones are added with the request's
    value, and nothing else inside `resource.headers` changes -/
theorem addMissing_lookup (hs : List (Bytes × Bytes)) (fields : List (Bytes × J)) (k : Bytes) :
    lookup k (addMissing hs fields) =
      match lookup k fields with
      | some v => some v
      | none => (hs.find? (fun kv => kv.1 = k)).map (fun kv => J.str kv.2) := by
  induction hs generalizing fields with
  | nil => cases h : lookup k fields <;> exact h
  | cons p t ih =>
    rw [addMissing_cons, ih]
    cases h1 : lookup p.1 fields with
    | some x =>
      cases hk : lookup k fields with
      | some y => rfl
      | none =>
        have : ¬ p.1 = k := fun e => by rw [e, hk] at h1; cases h1
        simp only [List.find?_cons, this, decide_false]
    | none =>
      rw [lookup_append_single]
      cases hk : lookup k fields with
      | some y => rfl
      | none => by_cases he : p.1 = k <;> simp [he]

/-- every other member, at every level, is left as it was -/
theorem inject_frame (hs : List (Bytes × Bytes)) (top res hdrs : List (Bytes × J))
    (h1 : lookup resourceKey top = some (.obj res)) (h2 : lookup headersKey res = some (.obj hdrs)) :
    ∃ top' res', inject hs (.obj top) = some (.obj top') ∧
      lookup resourceKey top' = some (.obj res') ∧
      lookup headersKey res' = some (.obj (addMissing hs hdrs)) ∧
      (∀ k, k ≠ resourceKey → lookup k top' = lookup k top) ∧
      (∀ k, k ≠ headersKey → lookup k res' = lookup k res) ∧
      top'.map (·.1) = top.map (·.1) ∧ res'.map (·.1) = res.map (·.1) := by
  refine ⟨setField resourceKey (.obj (setField headersKey (.obj (addMissing hs hdrs)) res)) top,
    setField headersKey (.obj (addMissing hs hdrs)) res, ?_, ?_, ?_, ?_, ?_, ?_, ?_⟩
  · simp [inject, h1, h2]
  · exact lookup_setField_same _ _ _
  · exact lookup_setField_same _ _ _
  · intro k hk; exact lookup_setField_other _ _ _ _ hk
  · intro k hk; exact lookup_setField_other _ _ _ _ hk
  · exact setField_keys _ _ _ _ h1
  · exact setField_keys _ _ _ _ h2

-- non-vacuity
example : b64enc [77, 97, 110] = [84, 87, 70, 117] := by decide
example : b64enc [0, 255] = [65, 80, 56, 61] := by decide
example : decodeClient (.arr [.num [49]]) = .skip := by decide
example : run (start 2 [1, 2, 3]) [.enq, .enq, .deq, .enq, .drain 2] = some { cap := 2, todo := [], chan := [], done := [1, 2, 3] } := by decide

end InvProxy.C11
