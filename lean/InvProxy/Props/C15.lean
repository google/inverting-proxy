/-
  C15 — the TCP bridge carries byte streams intact in both directions.  Property theorems only.
-/
import InvProxy.Model.Bridge
import InvProxy.Gen.Funcs
import InvProxy.Proofs.Bridge
namespace InvProxy.C15
open InvProxy InvProxy.Bridge

/-- all 256 byte values survive the hex encoding used on the wire -/
theorem hex_roundtrip (bs : Bytes) : hexDec (hexEnc bs) = some bs := by
  exact hexDec_hexEnc bs

/-- the wire form is injective: two different byte strings are never written as the same message -/
theorem hex_injective (a b : Bytes) (h : hexEnc a = hexEnc b) : a = b := by
  have ha := hexDec_hexEnc a
  rw [h, hexDec_hexEnc b] at ha
  exact (Option.some.inj ha).symm

/-- what `Write` puts on the wire: only the digits 0-9 and a-f (lower case, as `hex.EncodeToString`),
    two per byte — for every byte string -/
theorem hex_alphabet (bs : Bytes) :
    (∀ c ∈ hexEnc bs, isLowerHex c = true) ∧ (hexEnc bs).length = 2 * bs.length := by
  induction bs with
  | nil => exact ⟨nofun, rfl⟩
  | cons b t ih =>
    obtain ⟨h1, h2, _⟩ := nibbles b
    simp only [hexEnc, List.forall_mem_cons, List.length_cons, digit_table _ h1, digit_table _ h2, ih]
    exact ⟨⟨trivial, trivial, ih.1⟩, by omega⟩

/-- segmentation is immaterial on the wire too: the concatenated payloads of two writes are the
    payload of the single write of the concatenation -/
theorem hex_append (a b : Bytes) : hexEnc (a ++ b) = hexEnc a ++ hexEnc b := by
  induction a with
  | nil => rfl
  | cons x t ih => simp [hexEnc, ih]

/-- a text message whose payload has odd length is an error for the reader (never silently truncated) -/
theorem odd_payload_rejected (bs : Bytes) (c : UInt8) : hexDec (hexEnc bs ++ [c]) = none := by
  exact hexDec_odd _ (by rw [List.length_append, (hex_alphabet bs).2, List.length_singleton]; omega)

/-- upper-case hex digits are accepted as well (what `encoding/hex` does) -/
theorem unhex_upper : unhex 65 = some 10 ∧ unhex 70 = some 15 ∧ unhex 71 = none ∧ unhex 103 = none := by decide

/-- Core invariant: one `Read` hands out a prefix of the pending stream and leaves the rest
    pending — for any buffer size, any write segmentation, partially consumed messages,
    interleaved non-text messages and empty writes. -/
theorem read_preserves_stream (n : Nat) (r r' : Reader) (bs rest : Bytes)
    (hp : pending r.buffered r.inbox = some rest) (h : read n r = .data bs r') :
    ∃ rest', pending r'.buffered r'.inbox = some rest' ∧ rest = bs ++ rest' := by
  exact read_preserves n r r' bs rest hp h

/-- progress: a read with a non-empty buffer on a non-empty pending stream returns ≥ 1 byte -/
theorem read_progress (n : Nat) (hn : 0 < n) (r : Reader) (rest : Bytes)
    (hp : pending r.buffered r.inbox = some rest) (hne : rest ≠ []) :
    ∃ bs r', read n r = .data bs r' ∧ bs ≠ [] := by
  exact read_prog n hn r rest hp hne

/-- Every sequence of reads returns a prefix of what was written: no loss, duplication or
    reordering, for any write sizes (including empty writes) and any read-buffer sizes. -/
theorem bridge_stream (ws : List Bytes) (ns : List Nat) :
    reads ns { buffered := [], inbox := ws.map write } <+: ws.flatten := by
  exact reads_prefix ns _ _ (pending_writes [] ws)

/-- … and the whole stream once enough non-empty reads have been issued. -/
theorem bridge_complete (ws : List Bytes) (ns : List Nat) (hpos : ∀ n ∈ ns, 0 < n)
    (hlen : ws.flatten.length ≤ ns.length) :
    reads ns { buffered := [], inbox := ws.map write } = ws.flatten := by
  exact reads_complete ns _ _ (pending_writes [] ws) hpos hlen

/-- non-text (binary, control) messages between the text messages do not change the stream -/
theorem bridge_skips_non_text (ns : List Nat) (buf : Bytes) (inbox : List Msg) :
    reads ns { buffered := buf, inbox := inbox } = reads ns { buffered := buf, inbox := inbox.filter isText } := by
  induction ns generalizing buf inbox with
  | nil => rfl
  | cons n ns ih =>
    simp only [reads, Bridge.read, fill_filter]
    rcases fill buf inbox with _ | _ | ⟨b', i'⟩ <;> simp [ih]

/-- the two directions of a connection share no state: reading one direction leaves the
    other untouched (full-duplex traffic cannot interfere) -/
theorem directions_independent (c : Conn) (n : Nat) (bs : Bytes) (r' : Reader)
    (_h : read n c.ab = .data bs r') :
    ({ c with ab := r' } : Conn).ba = c.ba := rfl

/-- routing (regenerated from connection.go): exactly the websocket upgrades on the
    streaming path are bridged; everything else is passed through -/
theorem passthrough_route (isUpgrade : Bool) (path : Bytes) :
    Gen.connection_isPassthrough isUpgrade path = false ↔ (isUpgrade = true ∧ path = Gen.connection_StreamingPath) := by
  cases isUpgrade <;> simp [Gen.connection_isPassthrough]

/-- serving side (regenerated from tcp-bridge-backend.go): no deadline bounds a whole pass-through request or
    response, so exchanges of any duration are carried (a ReadTimeout/WriteTimeout or TimeoutHandler would cut
    slow uploads and streamed responses short) -/
theorem passthrough_unbounded_duration : Gen.bridgeBackend_exchangeDeadlines = [] := rfl

-- non-vacuity
example : hexEnc [0, 255, 16] = [48,48,102,102,49,48] := by decide
example : reads [2, 5, 1] { buffered := [], inbox := [write [1,2,3], .other [9], write [], write [4]] } = [1,2,3,4] := by decide

end InvProxy.C15
