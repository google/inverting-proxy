/-
  C13 — the websocket shim only ever connects to the configured backend.  Property theorems only.
-/
import InvProxy.Model.ShimUrl
namespace InvProxy.C13
open InvProxy InvProxy.ShimUrl InvProxy.Gen

/-- a well-formed target always reaches the backend -/
theorem dial_backend (host : Bytes) (hh : host ≠ []) (u : WsUrl) :
    dialOutcome true (websockets_rewriteTarget host u) = .dial host := by
  unfold dialOutcome websockets_rewriteTarget
  simp [hh]

/-- Whatever URL structure the client supplies — hierarchical, scheme-relative, path-only,
    opaque, with credentials, with a foreign host — the agent either refuses or connects to
    the configured backend host, never anywhere else. -/
theorem dial_confined (host : Bytes) (hh : host ≠ []) (u : WsUrl) (ok : Bool) :
    dialOutcome ok (websockets_rewriteTarget host u) = .refused ∨
    dialOutcome ok (websockets_rewriteTarget host u) = .dial host := by
  cases ok
  · exact .inl rfl
  · exact .inr (dial_backend host hh u)

/-- The supplied URL contributes only path and query (and fragment): two URLs agreeing on
    these yield the same dial target. -/
theorem only_path_query_used (host : Bytes) (u v : WsUrl)
    (h1 : u.Path = v.Path) (h2 : u.RawPath = v.RawPath) (h3 : u.RawQuery = v.RawQuery) (h4 : u.ForceQuery = v.ForceQuery)
    (h5 : u.Fragment = v.Fragment) (h6 : u.RawFragment = v.RawFragment) (h7 : u.OmitHost = v.OmitHost) :
    websockets_rewriteTarget host u = websockets_rewriteTarget host v := by
  cases u; cases v; simp_all [websockets_rewriteTarget]

/-- The authority part of the dial target is fixed by configuration: scheme `ws`, the configured
    host, no opaque part, no credentials — whatever the client wrote there. -/
theorem authority_fixed (host : Bytes) (u : WsUrl) :
    (websockets_rewriteTarget host u).Scheme = [119,115] ∧ (websockets_rewriteTarget host u).Host = host ∧
    (websockets_rewriteTarget host u).Opaque = [] ∧ (websockets_rewriteTarget host u).User = none := by
  simp [websockets_rewriteTarget]

/-- path and query of the supplied URL are carried over unchanged -/
theorem path_query_preserved (host : Bytes) (u : WsUrl) :
    (websockets_rewriteTarget host u).Path = u.Path ∧ (websockets_rewriteTarget host u).RawPath = u.RawPath ∧
    (websockets_rewriteTarget host u).RawQuery = u.RawQuery ∧ (websockets_rewriteTarget host u).ForceQuery = u.ForceQuery := by
  simp [websockets_rewriteTarget]

/-- The client's scheme, host, opaque part and credentials have no influence at all on which
    peer is contacted: replacing them by anything else leaves the outcome unchanged. -/
theorem client_authority_irrelevant (host : Bytes) (u : WsUrl) (ok : Bool) (sch hst opq : Bytes) (usr : Option Bytes) :
    dialOutcome ok (websockets_rewriteTarget host { u with Scheme := sch, Host := hst, Opaque := opq, User := usr }) =
    dialOutcome ok (websockets_rewriteTarget host u) := by
  simp [websockets_rewriteTarget]

/-- rewriting is idempotent: a second pass (or a client that already names the backend) changes nothing -/
theorem rewrite_idempotent (host : Bytes) (u : WsUrl) :
    websockets_rewriteTarget host (websockets_rewriteTarget host u) = websockets_rewriteTarget host u := by
  simp [websockets_rewriteTarget]

/-- requests under the shim prefix go to the shim, all others to the wrapped handler: the routing
    decision is exactly the prefix test -/
theorem route_iff_prefix (shimPrefix path : Bytes) : route shimPrefix path = .shim ↔ shimPrefix <+: path := by
  simp [route, Go.hasPrefix, List.isPrefixOf_iff_prefix]

/-- The defect this check found in the original code (only `Scheme` and `Host` were
    overwritten): an opaque URL such as `x:y` made the agent dial `:80` on its own host. -/
theorem opaque_dial_counterexample :
    let old (host : Bytes) (u : WsUrl) : WsUrl := { u with Scheme := [119,115], Host := host }
    dialOutcome true (old [98] { Scheme := [120], Opaque := [121], User := none, Host := [], Path := [], RawPath := [], OmitHost := false, ForceQuery := false, RawQuery := [], Fragment := [], RawFragment := [] }) = .foreign := by
  decide

/-- requests for paths outside the shim prefix go to the wrapped (normal) handler -/
theorem route_outside_prefix (shimPrefix path : Bytes) (h : ¬ shimPrefix <+: path) :
    route shimPrefix path = .wrapped := by
  simp [route, Go.hasPrefix, List.isPrefixOf_iff_prefix, h]

/-- regenerated fact: neither handler constructor on the pass-through path (websockets.Proxy, banner.Proxy) routes
    through an http.ServeMux, whose path cleaning answers non-canonical paths ("/a//b", "/a/../b") with a redirect
    of its own; `route` above (a prefix test on the path as received) is therefore the whole routing decision -/
theorem passthrough_has_no_cleaning_router : agent_passthroughServeMuxes = [] := rfl

/-- a non-canonical path outside the prefix is routed like any other -/
example : route [47,115,47] [47,97,47,47,98] = .wrapped := by decide

-- non-vacuity: a URL with credentials and a foreign host is confined to the backend
example : dialOutcome true (websockets_rewriteTarget [98,58,56,48] { Scheme := [119,115,115], Opaque := [], User := some [117], Host := [101,118,105,108], Path := [47,112], RawPath := [], OmitHost := false, ForceQuery := false, RawQuery := [113], Fragment := [], RawFragment := [] }) = .dial [98,58,56,48] := by decide

end InvProxy.C13
