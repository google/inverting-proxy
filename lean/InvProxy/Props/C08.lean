/-
  C08 — polling backs off with bounded, strictly positive delays.
  Property theorems only.  `Gen.utils_backoffTarget` and `Gen.agent_pollRetryStep` are
  regenerated from /repo on every run (tie T); `Backoff.jitter` is the hand model of
  `addJitter` (float arithmetic abstracted to exact rationals; validated by suite `backoff`).
-/
import InvProxy.Model.Backoff
import InvProxy.Proofs.Backoff
namespace InvProxy.C08
open InvProxy InvProxy.Backoff InvProxy.Gen

/-- For every retry count in the full unsigned 64-bit range the un-jittered target is
    2^n ms for n ≤ 11 and the 3 s cap above: no overflow, no wrap-around (n = 62, 63, 64,
    2^32, 2^64−1 included). -/
theorem target_closed_form (n : BitVec 64) :
    (utils_backoffTarget n).toNat = closedForm n.toNat := by
  unfold utils_backoffTarget closedForm
  by_cases h : n.toNat ≤ 11
  · -- 2^n ms stays below 2^64 ns: neither the shift nor the product wraps
    have hp : 2 ^ n.toNat ≤ 2 ^ 11 := Nat.pow_le_pow_right (by decide) h
    have hn : ¬ n > BitVec.ofNat 64 utils_maxRetryCountU := fun h' => Nat.not_lt.2 h (BitVec.lt_def.1 h')
    simp only [Id.run, pure, hn, h, decide_false, Bool.false_eq_true, if_false, if_true]
    rw [BitVec.toNat_mul, BitVec.shiftLeft_eq', BitVec.toNat_shiftLeft, BitVec.toNat_ofNat,
      BitVec.toNat_ofNat, Nat.shiftLeft_eq, Nat.one_mul, Nat.mod_eq_of_lt (a := 1000000) (by decide),
      Nat.mod_eq_of_lt (a := 2 ^ n.toNat), Nat.mod_eq_of_lt]
    · exact Nat.lt_of_le_of_lt (Nat.mul_le_mul_right _ hp) (by decide)
    · exact Nat.lt_of_le_of_lt hp (by decide)
  · have hn : n > BitVec.ofNat 64 utils_maxRetryCountU := BitVec.lt_def.2 (Nat.not_le.1 h)
    simp only [Id.run, pure, hn, h, decide_true, if_true, if_false]
    rfl

theorem target_pos (n : BitVec 64) : 1000000 ≤ (utils_backoffTarget n).toNat := by
  rw [target_closed_form]; exact closedForm_mono (Nat.zero_le _)

theorem target_le_cap (n : BitVec 64) : (utils_backoffTarget n).toNat ≤ 3000000000 := by
  rw [target_closed_form]; exact closedForm_le _

/-- the target doubles on every consecutive failure until the cap is reached -/
theorem target_doubles (n : BitVec 64) (h : n.toNat < 11) :
    (utils_backoffTarget (n + 1#64)).toNat = 2 * (utils_backoffTarget n).toNat := by
  rw [target_closed_form, target_closed_form,
    BitVec.toNat_add_of_lt (Nat.lt_of_lt_of_le (Nat.succ_lt_succ h) (by decide))]
  exact closedForm_succ h

theorem target_monotone (m n : BitVec 64) (h : m.toNat ≤ n.toNat) :
    (utils_backoffTarget m).toNat ≤ (utils_backoffTarget n).toNat := by
  rw [target_closed_form, target_closed_form]; exact closedForm_mono h

/-- Jitter keeps every delay strictly positive and within ±10 % (`JitterPercent`) of the
    target, for every random draw r = rn/rd ∈ [0,1). -/
theorem delay_bounds (n : BitVec 64) (rn rd : Nat) (hr : rn < rd) :
    let t := (utils_backoffTarget n).toNat
    0 < delay n rn rd ∧ 9 * t ≤ 10 * (delay n rn rd + 1) ∧ 10 * delay n rn rd ≤ 11 * t := by
  intro t
  have ht : 1000000 ≤ t := target_pos n
  have := jitter_bounds t 1 10 rn rd hr (by decide)
  rw [show delay n rn rd = jitter t 1 10 rn rd from rfl]
  omega

/-- every delay fits the signed 64-bit `time.Duration` and is at most 1.1 × 3 s -/
theorem delay_le_cap (n : BitVec 64) (rn rd : Nat) (hr : rn < rd) :
    delay n rn rd ≤ 3300000000 := by
  have := (delay_bounds n rn rd hr).2.2
  have := target_le_cap n
  omega

/-- the shortest delay is at least 0.9 ms − 1 ns: the loop never busy-waits -/
theorem never_busy (n : BitVec 64) (rn rd : Nat) (hr : rn < rd) : 899999 ≤ delay n rn rd := by
  have := (delay_bounds n rn rd hr).2.1
  have := target_pos n
  omega

/-- The polling loop: after k consecutive failures (k < 2^64) starting from a fresh
    counter, the next failing list call sleeps with retry count k. -/
theorem loop_kth_failure (k : Nat) (hk : k < 2 ^ 64) :
    (runLoop 0#64 (List.replicate (k + 1) true)).getLast? = some (some (BitVec.ofNat 64 k)) := by
  rw [runLoop_failures, BitVec.zero_add]

/-- a successful list call sleeps nothing and resets the counter: the first failure
    after any success sleeps with retry count 0, i.e. about 1 ms -/
theorem loop_success_resets (rc : BitVec 64) (rest : List Bool) :
    runLoop rc (false :: true :: rest) = none :: some 0#64 :: runLoop 1#64 rest := by
  rfl

/-- every failing iteration sleeps (with the count accumulated so far) -/
theorem loop_failure_sleeps (rc : BitVec 64) (rest : List Bool) :
    (runLoop rc (true :: rest)).head? = some (some rc) := by
  rfl

/-- one outcome per list call: the loop accounts for every iteration of any history -/
theorem loop_length (rc : BitVec 64) (fs : List Bool) : (runLoop rc fs).length = fs.length := by
  induction fs generalizing rc with
  | nil => rfl
  | cons f fs ih => cases f <;> simp [runLoop_ok, runLoop_fail, ih]

/-- For every history of list-call outcomes and every starting counter: the loop sleeps in
    exactly the iterations whose list call failed — it never spins through a failure without
    a delay, and it never delays after a success. -/
theorem loop_sleeps_iff_failed (rc : BitVec 64) (fs : List Bool) : (runLoop rc fs).map Option.isSome = fs := by
  induction fs generalizing rc with
  | nil => rfl
  | cons f fs ih => cases f <;> simp [runLoop_ok, runLoop_fail, ih]

/-- `loop_kth_failure` after an arbitrary history: whatever happened before (any outcomes, any
    counter value), once a list call succeeds the (k+1)-th consecutive failure after it sleeps
    with retry count k — the back-off restarts from about 1 ms and depends only on the current
    run of failures. -/
theorem loop_streak_after_any_history (rc : BitVec 64) (pre : List Bool) (k : Nat) (hk : k < 2 ^ 64) :
    (runLoop rc (pre ++ false :: List.replicate (k + 1) true)).getLast? = some (some (BitVec.ofNat 64 k)) := by
  obtain ⟨rc', h⟩ := runLoop_append rc pre (false :: List.replicate (k + 1) true)
  rw [h, runLoop_ok, List.getLast?_append, List.replicate_succ, runLoop_fail, List.getLast?_cons_cons,
    ← runLoop_fail, ← List.replicate_succ, loop_kth_failure k hk]
  rfl

/-- the list call itself happens once per loop iteration and the sleep lies on the failure
    branch only (T3 skeleton of `pollForNewRequests`) -/
theorem loop_shape :
    Skel.precedes (.call "utils.ListPendingRequests") (.call "time.Sleep") skel_agent_pollForNewRequests = true ∧
    Skel.count (.call "time.Sleep") skel_agent_pollForNewRequests = 1 := by decide +kernel

/-- What counts as a failing list call (regenerated decision of `parseRequestIDs`): every reply
    whose status is not 200 — with a body, with an empty body, with a JSON body — and every
    reply that cannot be read or parsed; only a 200 with an empty body or a well-formed list is a
    success.  So a proxy or load balancer answering bare 502/503s is backed off from. -/
theorem list_failure_classification (readErr : Bool) (status : Int) (bodyLen : Int) (jsonErr : Bool) :
    utils_parseRequestIDsFails readErr status bodyLen jsonErr =
      (readErr || status != 200 || (decide (0 < bodyLen) && jsonErr)) := by
  unfold utils_parseRequestIDsFails
  cases readErr
  · by_cases h1 : status = 200
    · by_cases h2 : bodyLen ≤ 0
      · simp [Id.run, pure, h1, h2, Int.not_lt.2 h2]
      · cases jsonErr <;> simp [Id.run, pure, h1, h2, Int.not_le.1 h2]
    · simp [Id.run, pure, h1]
  · rfl

theorem error_status_is_failure (status : Int) (bodyLen : Int) (jsonErr : Bool) (h : status ≠ 200) :
    utils_parseRequestIDsFails false status bodyLen jsonErr = true := by
  simp [utils_parseRequestIDsFails, Id.run, pure, h]

-- non-vacuity: concrete instances
example : utils_parseRequestIDsFails false 503 0 false = true ∧ utils_parseRequestIDsFails false 200 0 false = false ∧
    utils_parseRequestIDsFails false 200 12 true = true := by decide
example : (utils_backoffTarget 0#64).toNat = 1000000 := by decide
example : (utils_backoffTarget 11#64).toNat = 2048000000 := by decide
example : (utils_backoffTarget 12#64).toNat = 3000000000 := by decide
example : (utils_backoffTarget 64#64).toNat = 3000000000 := by decide
example : (utils_backoffTarget (BitVec.ofNat 64 (2^64 - 1))).toNat = 3000000000 := by decide
example : delay 3#64 1 2 = 8000000 := by decide
example : runLoop 5#64 [true, false, true, true] = [some 5#64, none, some 0#64, some 1#64] := by decide

end InvProxy.C08
