/-
  C02 — the backend receives the client's request unaltered.  Property theorems only.
-/
import InvProxy.Model.ReqPath
import InvProxy.Props.C09
import InvProxy.Proofs.ReqPath
namespace InvProxy.C02
open InvProxy InvProxy.ReqPath InvProxy.Gen

/-- the proxy's hop-by-hop predicate is exactly the RFC list, case-insensitively -/
theorem hop_table_exact (name : Bytes) : server_isHopByHopHeader name = specHop.contains (Go.toLower name) := by
  unfold server_isHopByHopHeader specHop
  generalize Go.toLower name = m
  -- both sides are the same chain of `||`; the switch returns `if chain then true else false`
  simp only [List.contains_cons, List.contains_nil, Bool.or_false, Bool.or_assoc, Id.run]
  generalize (m == _ || _) = b
  cases b <;> rfl

/-- the proxy's request filter removes every hop-by-hop field — by name … -/
theorem filter_removes_hop (h : Hdr) (hwf : RespPath.WF h) (k : Bytes) (hk : server_isHopByHopHeader k = true) :
    Hdr.values (server_filterRequestHeader h) k = [] := by
  rw [ReqPathP.values_filter]
  split
  · rfl
  · next hn =>
    -- a key `k` of `h` is deleted as nominated or, its entry having survived that, by its own (canonical) name
    refine Hdr.values_eq_nil_of_not_mem h k fun hm => hn (ReqPathP.mem_reqDrops.mpr ?_)
    obtain ⟨p, hp, rfl⟩ := List.mem_map.mp hm
    by_cases hc : p.1 ∈ Hdr.connDrops h
    · exact Or.inl hc
    · exact Or.inr ⟨p, Hdr.mem_foldl_del.mpr ⟨hp, hc⟩, hk, hwf.2 p hp⟩

/-- … or because the client's `Connection` header nominates it (any field name, any case,
    among other options) … -/
theorem filter_removes_nominated (h : Hdr) (hwf : RespPath.WF h) (k : Bytes) (hk : k ∈ Hdr.connDrops h) :
    Hdr.values (server_filterRequestHeader h) k = [] := by
  have _ := hwf   -- not needed: deleting by key works on any header map
  rw [ReqPathP.values_filter, if_pos (ReqPathP.mem_reqDrops.mpr (Or.inl hk))]

/-- … and leaves every other field exactly as it was: same values, same order -/
theorem filter_keeps_others (h : Hdr) (hwf : RespPath.WF h) (k : Bytes) (hk : server_isHopByHopHeader k = false)
    (hn : k ∉ Hdr.connDrops h) :
    Hdr.values (server_filterRequestHeader h) k = Hdr.values h k := by
  have _ := hwf   -- not needed: whatever else the filter deletes has a hop-by-hop name, in any letter case
  rw [ReqPathP.values_filter, if_neg]
  intro hm
  rcases ReqPathP.mem_reqDrops.mp hm with h1 | ⟨p, _, hp, rfl⟩
  · exact hn h1
  · rw [ReqPathP.isHop_canon, hp] at hk; cases hk

theorem filter_wf (h : Hdr) (hwf : RespPath.WF h) : RespPath.WF (server_filterRequestHeader h) :=
  ReqPathP.filter_eq_foldl_del h ▸ ReqPathP.wf_sublist (Hdr.foldl_del_sublist _ _) hwf

/-- End to end with the default agent configuration (no identity forwarding, no credential
    stripping): same method, same request target, same Host, same body, and every
    end-to-end header field the client sent (not hop-by-hop by name, not nominated in the
    client's `Connection` header) arrives with the same values in the same order. -/
theorem req_fidelity (wire rp : ReqM → ReqM) (hw : StdReqSpec wire) (hr : StdReqSpec rp) (q : ReqM) (hwf : RespPath.WF q.hdr)
    (k : Bytes) (hsent : Hdr.values q.hdr k ≠ []) (hk : server_isHopByHopHeader k = false) (hf : k ∉ framing)
    (hn : k ∉ Hdr.connDrops q.hdr) :
    let b := backendSees wire rp ⟨false, false, []⟩ q
    b.method = q.method ∧ b.target = q.target ∧ b.host = q.host ∧ b.body = q.body ∧
    Hdr.values b.hdr k = Hdr.values q.hdr k := by
  have e0 : Hdr.values (proxyFilter q).hdr k = Hdr.values q.hdr k := filter_keeps_others q.hdr hwf k hk hn
  have hconn : server_isHopByHopHeader Hdr.connKey = true := by decide
  have c0 : Hdr.values (proxyFilter q).hdr Hdr.connKey = [] := filter_removes_hop q.hdr hwf _ hconn
  have c1 : Hdr.values (wire (proxyFilter q)).hdr Hdr.connKey = [] := hw.drops_hop _ _ c0 hconn
  have e1 : Hdr.values (wire (proxyFilter q)).hdr k = Hdr.values q.hdr k := by
    rw [hw.keeps _ k (by rw [e0]; exact hsent) hk hf (ConnOpt.connDrops_nil _ c0 ▸ List.not_mem_nil), e0]
  have ea : agentEdit ⟨false, false, []⟩ (wire (proxyFilter q)) = wire (proxyFilter q) := by
    simp only [agentEdit, C09.flags_off_identity]
  have e2 : Hdr.values (rp (wire (proxyFilter q))).hdr k = Hdr.values q.hdr k := by
    rw [hr.keeps _ k (by rw [e1]; exact hsent) hk hf (ConnOpt.connDrops_nil _ c1 ▸ List.not_mem_nil), e1]
  simp only [backendSees, ea]
  refine ⟨?_, ?_, ?_, ?_, e2⟩
  · rw [hr.method, hw.method]; rfl
  · rw [hr.target, hw.target]; rfl
  · rw [hr.host, hw.host]; rfl
  · rw [hr.body, hw.body]; rfl

/-- hop-by-hop fields are not forwarded: neither the standard ones … -/
theorem hop_not_forwarded (wire rp : ReqM → ReqM) (hw : StdReqSpec wire) (hr : StdReqSpec rp) (cfg : AgentCfg) (q : ReqM)
    (hwf : RespPath.WF q.hdr) (k : Bytes) (hk : server_isHopByHopHeader k = true)
    (hku : k ≠ C09.userKey) :
    Hdr.values (backendSees wire rp cfg q).hdr k = [] := by
  have e0 : Hdr.values (proxyFilter q).hdr k = [] := filter_removes_hop q.hdr hwf k hk
  have e1 : Hdr.values (wire (proxyFilter q)).hdr k = [] := hw.drops_hop _ k e0 hk
  have e2 : Hdr.values (agentEdit cfg (wire (proxyFilter q))).hdr k = [] :=
    ConnOpt.values_fwd_nil _ _ _ _ k hku e1
  exact hr.drops_hop _ k e2 hk

/-- … nor a field the client nominated in `Connection` — provided nothing on the way supplies a
    field of that name itself (`StdReqSpec.adds_only_defaults`: the standard-library stages add
    only defaults such as User-Agent or Accept-Encoding where the client sent none). -/
theorem nominated_not_forwarded (wire rp : ReqM → ReqM) (hw : StdReqSpec wire) (hr : StdReqSpec rp) (q : ReqM)
    (hwf : RespPath.WF q.hdr) (k : Bytes) (hk : k ∈ Hdr.connDrops q.hdr)
    (hd : k ∉ defaults) (hf : k ∉ framing) :
    Hdr.values (backendSees wire rp ⟨false, false, []⟩ q).hdr k = [] := by
  have e0 : Hdr.values (proxyFilter q).hdr k = [] := filter_removes_nominated q.hdr hwf k hk
  have e1 : Hdr.values (wire (proxyFilter q)).hdr k = [] := hw.adds_only_defaults _ k e0 hd hf
  have ea : agentEdit ⟨false, false, []⟩ (wire (proxyFilter q)) = wire (proxyFilter q) := by
    simp only [agentEdit, C09.flags_off_identity]
  simp only [backendSees, ea]
  exact hr.adds_only_defaults _ k e1 hd hf

/-- T1 (wiring the request-path model assumes): the agent forwards through a Director-mode
    `httputil.NewSingleHostReverseProxy` — whose only header edits are the hop-by-hop removal
    modelled in `ReqPath` — not through a `Rewrite`-mode proxy, which deletes the client's
    `Forwarded` / `X-Forwarded-*` fields first. -/
theorem agent_forwards_in_director_mode : agent_hostProxyIsDirectorMode = true := by decide

-- non-vacuity
example : server_isHopByHopHeader [84,69] = true ∧ server_isHopByHopHeader [67,111,111,107,105,101] = false := by decide
example : server_filterRequestHeader [([85,112,103,114,97,100,101], [[104]]), ([88,45,65], [[49],[50]])] = [([88,45,65], [[49],[50]])] := by decide
-- `Connection: close, x-hop` nominates X-Hop: it is removed together with Connection, X-Keep stays
example : server_filterRequestHeader [(Hdr.connKey, [[99,108,111,115,101,44,32,120,45,104,111,112]]), ([88,45,72,111,112], [[49]]), ([88,45,75,101,101,112], [[50]])] =
    [([88,45,75,101,101,112], [[50]])] := by decide

end InvProxy.C02
