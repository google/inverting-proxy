/-
  C17 — the App Engine proxy enforces who may act as agent, user and admin.  Property theorems only.
-/
import InvProxy.Model.AppAuth
import InvProxy.Props.C18
import InvProxy.Proofs.AppAuth
namespace InvProxy.C17
open InvProxy InvProxy.AppAuth InvProxy.Gen

/-- An agent call (list, fetch, respond) succeeds only if the caller's OAuth identity is the
    backend user registered for the backend ID it names — for every store state, every
    backend ID and request ID (own, another backend's, unknown), absent identity included. -/
theorem agent_authz (s : St) (c : Caller) (ep : AgentEp) (b : Bid) (r : Rid) (p : Bytes)
    (h : (agentCall s c ep b r p).1 ≠ 401) :
    ∃ be, findBackend s.backends b = some be ∧ c.oauth = some be.BackendUser ∧ b ≠ [] := by
  rcases checkBackendID_cases s c b with ⟨e, hc⟩ | hc
  · rw [agentCall_err hc] at h; exact absurd rfl h
  · obtain ⟨_, h2, be, h3, h4⟩ := (checkBackendID_ok_iff s c b b).1 hc
    exact ⟨be, h3, h4, h2⟩

/-- Every other caller gets 401 and learns nothing: status and body do not depend on any
    stored request or response, and nothing is changed. -/
theorem unauthorised_learns_nothing (s s' : St) (c : Caller) (ep : AgentEp) (b : Bid) (r : Rid) (p : Bytes)
    (hb : s.backends = s'.backends) (h : (agentCall s c ep b r p).1 = 401) :
    (agentCall s' c ep b r p).1 = 401 ∧ (agentCall s' c ep b r p).2.1 = (agentCall s c ep b r p).2.1 ∧
    (agentCall s c ep b r p).2.2 = s := by
  rcases checkBackendID_cases s c b with ⟨e, hc⟩ | hc
  · rw [agentCall_err (checkBackendID_congr s s' c b hb ▸ hc), agentCall_err hc]
    exact ⟨rfl, rfl, rfl⟩
  · exact absurd h (agentCall_ne_401 hc ep r p)

/-- An authorised call touches only that backend's requests: requests of every other
    backend are neither changed nor revealed (the reply depends only on the named backend's part). -/
theorem agent_scope (s : St) (c : Caller) (ep : AgentEp) (b : Bid) (r : Rid) (p : Bytes) (b' : Bid) (r' : Rid)
    (hne : b' ≠ b) :
    getReq (agentCall s c ep b r p).2.2.reqs (b', r') = getReq s.reqs (b', r') ∧
    (agentCall s c ep b r p).2.2.backends = s.backends := by
  rcases agentCall_state s c ep b r p with ⟨h1, _⟩ | ⟨_, _, _, h1⟩
  · rw [h1]; exact ⟨rfl, rfl⟩
  · rw [h1]; exact ⟨getReq_markDone s.reqs fun e => hne (congrArg Prod.fst e), rfl⟩

theorem agent_reply_local (s s' : St) (c : Caller) (ep : AgentEp) (b : Bid) (r : Rid) (p : Bytes)
    (hb : s.backends = s'.backends) (hr : ∀ r', getReq s.reqs (b, r') = getReq s'.reqs (b, r'))
    (hp : pendingOf s b = pendingOf s' b) :
    (agentCall s c ep b r p).1 = (agentCall s' c ep b r p).1 ∧ (agentCall s c ep b r p).2.1 = (agentCall s' c ep b r p).2.1 := by
  have hcc := checkBackendID_congr s s' c b hb
  rcases checkBackendID_cases s c b with ⟨e, hc⟩ | hc
  · rw [agentCall_err hc, agentCall_err (hcc ▸ hc)]; exact ⟨rfl, rfl⟩
  · cases ep
    · rw [agentCall_list hc, agentCall_list (hcc ▸ hc), hp]; exact ⟨rfl, rfl⟩
    · rw [agentCall_fetch hc, agentCall_fetch (hcc ▸ hc), hr r]; repeat' split
      all_goals exact ⟨rfl, rfl⟩
    · rw [agentCall_respond hc, agentCall_respond (hcc ▸ hc), hr r]; repeat' split
      all_goals exact ⟨rfl, rfl⟩

/-- A response is stored only for a request that exists under the caller's own backend. -/
theorem respond_needs_own_request (s : St) (c : Caller) (b : Bid) (r : Rid) (p : Bytes)
    (h : (agentCall s c .respond b r p).2.2.resps ≠ s.resps) :
    (getReq s.reqs (b, r)).isSome ∧ (agentCall s c .respond b r p).2.2.resps = (r, p) :: s.resps := by
  rcases agentCall_state s c .respond b r p with ⟨h1, _⟩ | ⟨_, _, h2, h3⟩
  · rw [h1] at h; exact absurd rfl h
  · rw [h3]; exact ⟨h2, rfl⟩

/-- End users are only ever routed to a backend registered for their own identity or for allUsers. -/
theorem enduser_routing (s : St) (c : Caller) (ls : Bytes → Option Int) (now : Int) (rid : Rid) (path contents : Bytes) (b : Bid)
    (hid : ∀ x ∈ s.backends, x.BackendID ≠ [])
    (h : (userPost s c ls now rid path contents).2.1 = some b) :
    ∃ u be, c.user = some u ∧ be ∈ s.backends ∧ be.BackendID = b ∧ (be.EndUser = u ∨ be.EndUser = store_sharedBackendUser) := by
  obtain ⟨u, hu, hl, _⟩ := userPost_some h
  obtain ⟨be, hbe, h1, h2⟩ := C18.routed_backend_owner { backends := s.backends, lastSeen := ls } _ _ _ _ hid hl
  exact ⟨u, be, hu, hbe, h1, h2⟩

theorem unsigned_401 (s : St) (c : Caller) (ls : Bytes → Option Int) (now : Int) (rid : Rid) (path contents : Bytes)
    (h : c.user = none) : userPost s c ls now rid path contents = (401, none, s) := by
  unfold userPost; rw [h]

/-- The backend-administration API answers only administrators: everybody else gets 403 and changes nothing. -/
theorem admin_only (s : St) (c : Caller) (op : AdminOp) (h : isAdmin c = false) :
    adminCall s c op = (403, .text 5, s) := by
  unfold adminCall; simp [h]

/-- T3: in all three agent handlers `checkBackendID` comes before any store access or reply,
    the admin test comes before any backend CRUD handler, and the cron handler is protected
    by `login: admin` in api.yaml. -/
theorem check_precedes_store :
    Skel.precedes (.call "checkBackendID") (.call "waitForNextRequests") skel_app_pendingHandler = true ∧
    Skel.precedes (.call "checkBackendID") (.call "s.ReadRequest") skel_app_requestHandler = true ∧
    Skel.precedes (.call "checkBackendID") (.call "w.Write") skel_app_requestHandler = true ∧
    Skel.precedes (.call "checkBackendID") (.call "parseResponse") skel_app_responseHandler = true ∧
    Skel.precedes (.call "checkBackendID") (.call "postResponse") skel_app_responseHandler = true ∧
    Skel.precedes (.call "user.CurrentOAuth") (.call "s.IsBackendUserAllowed") skel_app_checkBackendID = true ∧
    Skel.precedes (.call "isAdminRequest") (.call "listBackendsHandler") skel_app_handleAPIRequest = true ∧
    Skel.precedes (.call "isAdminRequest") (.call "addBackendHandler") skel_app_handleAPIRequest = true ∧
    Skel.precedes (.call "isAdminRequest") (.call "deleteBackendHandler") skel_app_handleAPIRequest = true ∧
    Skel.precedes (.call "user.Current") (.call "s.LookupBackend") skel_app_proxyHandler = true ∧
    Skel.precedes (.call "s.LookupBackend") (.call "postRequest") skel_app_proxyHandler = true ∧
    yaml_api_handlers = [([47,97,112,105,47,46,42], []), ([47,99,114,111,110,47,46,42], [97,100,109,105,110])] := by decide +kernel

/-- T1: every cache and datastore key that is built from a backend ID and a request ID quotes
    both (`%q` output is self-delimiting), so two different (backend, request) pairs can never
    be stored or cached under one key — which `ReadRequest`/`ReadResponse` of the caching store
    rely on when they trust a cache hit.  (`r:%s:%s` would let backend `team` with request
    `prod:R` hit the cached request `R` of backend `team:prod`.) -/
theorem store_keys_quote_ids :
    cache_requestKeyFormat = [114,58,37,113,58,37,113] ∧                     -- "r:%q:%q"
    cache_responseKeyFormat = [114,101,115,112,58,37,113,58,37,113] ∧         -- "resp:%q:%q"
    store_requestKindFormat = [37,115,37,113] :=                              -- "%s%q" (prefix, backend ID)
  ⟨rfl, rfl, rfl⟩

/-- T1: the memcache layer answers no authorisation or routing question itself — the agent
    identity check, the backend lookup for end users and the backend CRUD operations are plain
    delegations to the datastore-backed store, so `AppAuth` (which has no cache for them) is the
    right model: a re-registered or cleaned-up backend is forgotten at once. -/
theorem authorisation_never_cached :
    "IsBackendUserAllowed" ∈ cache_pureDelegations ∧ "LookupBackend" ∈ cache_pureDelegations ∧
    "AddBackend" ∈ cache_pureDelegations ∧ "DeleteBackend" ∈ cache_pureDelegations ∧
    "ListBackends" ∈ cache_pureDelegations ∧ "ListPendingRequests" ∈ cache_pureDelegations := by
  simp only [cache_pureDelegations, List.mem_cons, true_or, or_true, and_self]

/-- T1: the ID under which an end-user request is stored (and under which its response is
    looked up — responses are keyed by request ID alone) is App Engine's own request ID; a client
    cannot choose it, so it cannot name another user's in-flight request. -/
theorem request_id_not_client_controlled : app_requestIDSource = "appengine.RequestID(ctx)" := rfl

end InvProxy.C17
