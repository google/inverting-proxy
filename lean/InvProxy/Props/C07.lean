/-
  C07 — one failing request never takes down the agent or other requests.  Property theorems only.
-/
import InvProxy.Model.Workers
import InvProxy.Proofs.Workers
import InvProxy.Props.C01
import InvProxy.Props.C03
import InvProxy.Props.C10
import InvProxy.Props.C12
namespace InvProxy.C07
open InvProxy InvProxy.Workers InvProxy.Gen

/-- Non-interference: what happens to worker `j` depends only on the steps and faults of
    worker `j` — for every number of workers, every schedule and every placement of faults
    on the other workers. -/
theorem non_interference (a : Agent) (sched : List (Nat × Option Fault)) (j : Nat) (pc : Pc) (hj : a[j]? = some pc) :
    (arun a sched)[j]? = some (wrun pc (proj j sched)) := by
  rw [arun_getElem?, hj]; rfl

/-- in particular two schedules that agree on worker `j` give it the same outcome, whatever faults hit the others -/
theorem faults_elsewhere_invisible (a : Agent) (s1 s2 : List (Nat × Option Fault)) (j : Nat) (pc : Pc) (hj : a[j]? = some pc)
    (hp : proj j s1 = proj j s2) : (arun a s1)[j]? = (arun a s2)[j]? := by
  rw [non_interference a s1 j pc hj, non_interference a s2 j pc hj, hp]

/-- requests issued afterwards are served normally: a fresh worker appended after any history runs to `served 200` without faults -/
theorem serves_after (a : Agent) (sched : List (Nat × Option Fault)) :
    let a' := arun a sched ++ [Pc.fetching]
    let j := (arun a sched).length
    (arun a' [(j, none), (j, none), (j, none), (j, none), (j, none)])[j]? = some (.finished (.served 200)) := by
  intro a' j
  have hj : a'[j]? = some Pc.fetching := by simp [a', j]
  rw [non_interference a' _ j _ hj]
  simp [proj, wrun, wstep]

/-- no fault and no schedule makes a worker disappear: the agent keeps as many workers as it started -/
theorem workers_never_vanish (a : Agent) (sched : List (Nat × Option Fault)) : (arun a sched).length = a.length :=
  arun_length a sched

/-- Whatever goes wrong on the *backend* side (unreachable, malformed head, reset mid-body — any combination, at any
    step), the request still ends with a response uploaded and acknowledged, 200 or 502: only a failure of the proxy
    legs themselves (fetch, upload) can leave a request without a response. -/
theorem served_unless_proxy_fails (fs : List (Option Fault)) (h : 5 ≤ fs.length)
    (h1 : some Fault.fetchFail ∉ fs) (h2 : some Fault.uploadFail ∉ fs) :
    ∃ st, (st = 200 ∨ st = 502) ∧ wrun .fetching fs = .finished (.served st) :=
  Workers.served_unless_proxy_fails fs h h1 h2

/-- a finished worker stays finished with the same outcome: later faults cannot rewrite what a client received -/
theorem outcome_is_final (o : Outcome) (fs : List (Option Fault)) : wrun (.finished o) fs = .finished o :=
  wrun_finished o fs

/-- When the backend cannot be reached the client receives a 502 response rather than no response. -/
theorem unreachable_backend_502 :
    wrun .fetching [none, some .connectFail, none] = .finished (.served 502) := by decide

/-- a worker always terminates, in at most five steps, whatever faults hit it -/
theorem worker_terminates (fs : List (Option Fault)) (h : 5 ≤ fs.length) : ∃ o, wrun .fetching fs = .finished o := by
  apply rank_zero
  have : rank (wrun .fetching fs) ≤ 5 - fs.length := rank_wrun .fetching fs
  omega

/-- No crash from the shared objects: the facts that rule out the runtime's fatal errors and
    panics on each object shared between workers (proved / regenerated in the named checks). -/
theorem no_crash_shared_objects :
    (utils_srwHeaderAliased = false ∧ utils_srwTrailerShared = false) ∧                                   -- C03: response maps not shared between goroutines
    Skel.guarded "c.mu" "c.cache" skel_sessions_cachedCookieJar = true ∧                                    -- C10: session LRU only under its mutex
    ShimLife.classify skel_websockets_Connection_Close skel_websockets_Connection_SendClientMessage = some ShimLife.good ∧  -- C12: no send on / close of a closed channel
    Skel.guarded "p" "p.randGenerator" skel_server_newID = true := by decide +kernel                                -- C01: proxy-side generator under the mutex

/-- T3/T1: workers are started with nothing but the client, the handler chain and IDs; each
    request gets its own response forwarder; fetch and upload retry a bounded number of times. -/
theorem worker_isolation_shape :
    agent_workerArgs = ["client", "hostProxy", "backendID", "requestID"] ∧
    Skel.calls "utils.NewResponseForwarder" skel_agent_forwardRequest = true ∧
    Skel.precedes (.call "utils.NewResponseForwarder") (.call "hostProxy.ServeHTTP") skel_agent_forwardRequest = true ∧
    Skel.precedes (.call "hostProxy.ServeHTTP") (.call "responseForwarder.Close") skel_agent_forwardRequest = true ∧
    utils_maxReadRequestRetryCount = 2 ∧ utils_maxWriteResponseRetryCount = 2 := by decide +kernel

end InvProxy.C07
