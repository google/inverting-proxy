/-
  C14 — banner and shim-script injection touch HTML documents only.  Property theorems only.
-/
import InvProxy.Model.Inject
import InvProxy.Proofs.Inject
namespace InvProxy.C14
open InvProxy InvProxy.Inject InvProxy.Gen

/-- the predicate of the property, spelled out from the statement -/
def IsBannerTarget (r : Req) (code : Int) (h : Hdr) : Prop :=
  r.Method = [71,69,84] ∧ Go.contains (Hdr.Get r.Header banner_acceptHeader) [116,101,120,116,47,104,116,109,108] = true ∧
  code = 200 ∧
  (∀ cd ∈ Hdr.values h banner_contentDispositionHeader, Go.contains (Go.toLower cd) [97,116,116,97,99,104,109,101,110,116] = false) ∧   -- no "attachment", in any case
  (∃ ct ∈ Hdr.values h banner_contentTypeHeader,   -- the media type (what precedes the first ';'), not a parameter
     Go.contains (Go.beforeSep ct [59]) [116,101,120,116,47,104,116,109,108] = true ∨
     Go.contains (Go.beforeSep ct [59]) [97,112,112,108,105,99,97,116,105,111,110,47,120,104,116,109,108,43,120,109,108] = true)

/-- the regenerated predicates say exactly that -/
theorem predicates_exact (r : Req) (code : Int) (h : Hdr) :
    (banner_isHTMLRequest r = true ∧ banner_isFrameableHTMLResponse code h = true) ↔ IsBannerTarget r code h := by
  rw [isHTMLRequest_iff, isFrameable_iff]
  simp only [IsBannerTarget, and_assoc]

/-- Every response that is not a 200, non-attachment HTML reply to a GET accepting
    text/html passes through byte for byte: same status, same header map at the time of the
    head, same body writes in the same order. -/
theorem banner_identity (cfg : Cfg) (r : Req) (h0 : Hdr) (ops : List Op)
    (hn : ∀ c h, headOf h0 ops = some (c, h) → ¬ IsBannerTarget r c h) :
    bannered cfg r h0 ops = plain h0 ops := by
  rw [bannered_eq]
  split
  · next hr =>
    exact frame_of_not_frameable cfg _ fun c h hh =>
      Bool.eq_false_iff.mpr fun hfr => hn c h hh ((predicates_exact r c h).mp ⟨hr, hfr⟩)
  · rfl

/-- A request that is already framed gets the original body (only the caching / framing
    headers are set). -/
theorem banner_framed_body (cfg : Cfg) (r : Req) (h0 : Hdr) (ops : List Op) (hf : cfg.alreadyFramed = true) :
    bodyOf (bannered cfg r h0 ops) = bodyOf (plain h0 ops) := by
  rw [bannered_eq]
  split
  · exact bodyOf_frame cfg hf _
  · rfl

/-- Otherwise a banner target is answered with the frame page and nothing else (after the
    interim responses, which pass as they would without the banner), marked uncacheable and
    same-origin frameable. -/
theorem banner_page (cfg : Cfg) (r : Req) (h0 : Hdr) (ops : List Op) (c : Int) (h : Hdr)
    (hh : headOf h0 ops = some (c, h)) (ht : IsBannerTarget r c h) (hf : cfg.alreadyFramed = false) :
    ∃ h', bannered cfg r h0 ops = interimsOf (plain h0 ops) ++ [.head c h', .body cfg.page] ∧
      Hdr.Values h' banner_cacheControlHeader = [noCacheValue] ∧ Hdr.Values h' banner_pragmaHeader = [noCache] ∧
      Hdr.Values h' banner_expiresHeader = [epochValue] ∧ Hdr.Values h' banner_xFrameOptionsHeader = [sameOrigin] ∧
      Hdr.Values h' banner_contentEncodingHeader = [] := by
  obtain ⟨hr, hfr⟩ := (predicates_exact r c h).mpr ht
  refine ⟨_, ?_, page_headers cfg h⟩
  rw [bannered_eq, if_pos hr]
  exact frame_page cfg hf _ (resp_plain h0 ops) c h hh hfr

/-- Whatever the response — target or not, framed or not, preceded by any number of interim
    responses — the final status the client side sees is the one the handler wrote (a 404
    after a 103 stays a 404), and the interim responses pass unchanged. -/
theorem banner_keeps_status (cfg : Cfg) (r : Req) (h0 : Hdr) (ops : List Op) :
    statusOf (bannered cfg r h0 ops) = statusOf (plain h0 ops) ∧
    interimsOf (bannered cfg r h0 ops) = interimsOf (plain h0 ops) := by
  rw [bannered_eq]
  split
  · exact frame_keeps cfg _ (resp_plain h0 ops)
  · exact ⟨rfl, rfl⟩

-- non-vacuity: 103 then a 404 with HTML: nothing is framed, the status stays
example : bannered ⟨false, [1], []⟩ { Method := [71,69,84], Header := [(banner_acceptHeader, [[116,101,120,116,47,104,116,109,108]])], Host := [], URL := ⟨[]⟩ } []
    [.setHeader banner_contentTypeHeader [116,101,120,116,47,104,116,109,108], .writeHeader 103, .writeHeader 404, .write [120]] =
    [.interim 103 [(banner_contentTypeHeader, [[116,101,120,116,47,104,116,109,108]])], .head 404 [(banner_contentTypeHeader, [[116,101,120,116,47,104,116,109,108]])], .body [120]] := by decide

/-! ### shim script -/

/-- non-HTML content types: body and Content-Length untouched, for any read segmentation -/
theorem splice_non_html (code ct first rest : Bytes) (h : isHTMLType ct = false) :
    shimBody code ct first rest = (first ++ rest, false) := by
  simp [shimBody, h]

/-- only the media type decides: parameters after the first ';' (a file name, a schema URL, a charset that
    happen to contain "html") never turn a response into an HTML document -/
theorem html_type_ignores_parameters (mt params : Bytes) (h : ∀ b ∈ mt, b ≠ 59) :
    isHTMLType (mt ++ 59 :: params) = isHTMLType mt := by
  have h0 := mediaType_append mt [] h
  rw [List.append_nil] at h0
  rw [isHTMLType, isHTMLType, mediaType_append mt _ h, h0]
  rfl

/-- the first `<head>` inside the first read is the first `<head>` of the whole body -/
theorem index_append_left (a b pat : Bytes) (i : Nat) (h : Go.index a pat = some i) :
    Go.index (a ++ b) pat = some i := by
  exact index_append_of_eq_some a b pat i h

/-- HTML: the result is the original body with the script inserted exactly once,
    immediately after the first `<head>` of the whole body — or the unchanged body when the
    first read holds no `<head>`.  Nothing else is added, removed or reordered. -/
theorem splice_correct (code ct first rest : Bytes) (h : isHTMLType ct = true) :
    (Go.index first headTag = none ∧ (shimBody code ct first rest).1 = first ++ rest) ∨
    (∃ i, Go.index (first ++ rest) headTag = some i ∧
      (shimBody code ct first rest).1 = (first ++ rest).take (i + 6) ++ code ++ (first ++ rest).drop (i + 6)) := by
  rw [shimBody, if_pos h]
  cases hi : Go.index first headTag with
  | none => exact Or.inl ⟨rfl, by rw [Go.replaceFirst, hi]⟩
  | some i =>
    have hle : i + 6 ≤ first.length := (index_eq_some _ _ _ hi).2.2
    refine Or.inr ⟨i, index_append_of_eq_some _ _ _ _ hi, ?_⟩
    show Go.replaceFirst first headTag (headTag ++ code) ++ rest = _
    rw [replaceFirst_insert hi, List.take_append_of_le_length hle, List.drop_append_of_le_length hle]
    simp only [List.append_assoc]; rfl

/-- `Go.index` really is "first occurrence" -/
theorem index_spec (s pat : Bytes) (i : Nat) (h : Go.index s pat = some i) :
    pat <+: s.drop i ∧ ∀ j < i, ¬ pat <+: s.drop j := by
  exact ⟨(index_eq_some s pat i h).1, (index_eq_some s pat i h).2.1⟩

/-- the per-response hook returned by ShimBody (regenerated fact): it uses no buffer that is allocated once per
    ShimBody call, so concurrent responses cannot see each other's bytes; the splice theorems above, which are
    about one response in isolation, therefore apply to every response of a concurrent run -/
theorem shim_hook_shares_no_buffer : websockets_shimBodySharedBuffers = [] := rfl

-- `application/json;x=text/html` (a parameter that mentions text/html) does not make a response frameable (D26)
example : banner_isFrameableHTMLResponse 200 [(banner_contentTypeHeader, [[97,112,112,108,105,99,97,116,105,111,110,47,106,115,111,110,59,120,61,116,101,120,116,47,104,116,109,108]])] = false := by decide

-- non-vacuity
-- `application/json;x=html` is not an HTML type, `application/xhtml+xml;x=1` is
example : isHTMLType [97,112,112,108,105,99,97,116,105,111,110,47,106,115,111,110,59,120,61,104,116,109,108] = false := by decide
example : isHTMLType [97,112,112,108,105,99,97,116,105,111,110,47,120,104,116,109,108,43,120,109,108,59,120,61,49] = true := by decide
example : (shimBody [1] [116,101,120,116,47,72,84,77,76] [60,104,101,97,100,62,60,104,101,97,100,62] [9]).1 = [60,104,101,97,100,62,1,60,104,101,97,100,62,9] := by decide
example : banner_isFrameableHTMLResponse 200 [(banner_contentTypeHeader, [[116,101,120,116,47,104,116,109,108]])] = true := by decide

end InvProxy.C14

