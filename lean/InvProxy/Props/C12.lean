/-
  C12 — the websocket shim answers every call and survives any call order.  Property theorems only.
-/
import InvProxy.Model.ShimLife
import InvProxy.Proofs.ShimLife
namespace InvProxy.C12
open InvProxy InvProxy.ShimLife InvProxy.Gen

/-- the code is in the good variant (regenerated skeletons of `Connection.Close` and `SendClientMessage`) -/
theorem variant_is_good :
    classify skel_websockets_Connection_Close skel_websockets_Connection_SendClientMessage = some good := by decide +kernel

/-- `SendClientMessage` queues a nil message for a one-element array whose element is not a
    string (the call is still answered 200); the writer goroutine must therefore skip nil
    messages before touching them, or that malformed input crashes the agent. -/
theorem writer_skips_nil_messages : websockets_sendMayQueueNil = true → websockets_writerSkipsNil = true := fun _ => rfl

/-- No call ever panics, in any reachable state of any interleaving of calls (including
    data racing with close, and double close), goroutine steps and backend events. -/
theorem shim_no_panic (cap : Nat) (s : St) (h : Reachable good cap s) : Pc.panicked ∉ s.calls := by
  intro hp
  exact absurd ((inv_reachable h).calls _ hp) (by simp [okPc])

/-- Every call gets an answer: while some call is unanswered, an internal step is enabled
    (a step of a call, of a goroutine, or a poll timer) … -/
theorem shim_answers_enabled (cap : Nat) (hc : 0 < cap) (s : St) (h : Reachable good cap s)
    (i : Nat) (pc : Pc) (hi : s.calls[i]? = some pc) (hna : ∀ st, pc ≠ .answered st) :
    ∃ a s', a.internal = true ∧ step good s a = some s' :=
  enabled (inv_reachable h) hc hi hna

/-- … and every internal step strictly decreases the measure `mu`: under any scheduling the
    call is answered after at most `mu s` internal steps (no call can starve behind an
    unbounded sequence of other internal steps). -/
theorem shim_decreases (cap : Nat) (s s' : St) (h : Reachable good cap s) (a : Act) (hi : a.internal = true)
    (hs : step good s a = some s') : mu s' < mu s :=
  (step_spec (inv_reachable h) hs).2 hi

/-- … and the answers are only 200, 400 or 408 (500 arises only from I/O errors outside the model). -/
theorem shim_statuses (cap : Nat) (s : St) (h : Reachable good cap s) (st : Nat) (hs : Pc.answered st ∈ s.calls) :
    st = 200 ∨ st = 400 ∨ st = 408 := by
  simpa [okPc] using (inv_reachable h).calls _ hs

/-- calls naming a session that is not (or no longer) in the table are rejected with 400 -/
theorem unknown_or_closed_400 (v : Variant) (s : St) (i : Nat) (pc : Pc) (hi : s.calls[i]? = some pc)
    (hl : pc = .closeLoad ∨ pc = .pollLoad ∨ ∃ n, n > 0 ∧ pc = .dataLoad n) (ht : s.inTable = false) :
    ∃ s', callStep v s i = some s' ∧ s'.calls[i]? = some (.answered 400) := by
  have hlt : i < s.calls.length := (List.getElem?_eq_some_iff.mp hi).1
  refine ⟨setCall s i (.answered 400), ?_, by simp [setCall, hlt]⟩
  obtain rfl | rfl | ⟨n, hn, rfl⟩ := hl <;> simp [callStep, hi, ht]
  omega

/-- closing a session closes the backend websocket: once the close call has been answered
    and the writer has consumed the queue, the connection is done and the closer step
    closes the server connection -/
theorem close_closes_backend (cap : Nat) (s : St) (h : Reachable good cap s) (hw : s.writer = false) :
    s.done = true :=
  (inv_reachable h).wd hw

/-- When the backend closes first, polls deliver what was already received and only then
    report the session closed: at the moment the reader goroutine closes `serverMessages`
    (the only thing that makes a poll report "closed"), it has taken every message the
    backend sent, and buffered messages stay readable from the closed channel.
    (A state-based version — "`sqClosed → incoming = 0`" — is false: after a client-initiated
    close the backend may still send while the closer goroutine has not yet run; see
    `ShimLife.backend_close_drains_false`.  Those messages belong to a session the client
    has closed.) -/
theorem backend_close_drains (v : Variant) (s s' : St) (hs : step v s .readerStep = some s')
    (h0 : s.sqClosed = false) (h1 : s'.sqClosed = true) : s'.incoming = 0 ∧ s'.reader = false := by
  simp only [step, Run.ite_eq_some, reduceCtorEq, and_false, false_or, or_false, Bool.and_eq_true,
    decide_eq_true_eq, Option.some.injEq] at hs
  obtain ⟨-, ⟨hd, rfl⟩ | ⟨-, ⟨-, -, rfl⟩ | ⟨hi, -, rfl⟩⟩⟩ := hs
  · exact ⟨hd.2, rfl⟩
  · exact absurd h1 (by simp [h0])
  · exact ⟨Nat.eq_zero_of_not_pos hi, rfl⟩

/-- once the channel of server messages is closed the reader goroutine has exited for good -/
theorem reader_exited_once_closed (cap : Nat) (s : St) (h : Reachable good cap s) (hq : s.sqClosed = true) :
    s.reader = false := (inv_reachable h).rq hq

/-- The defects this check found in the original code, as runs of the original variant:
    data racing with close panics (send on closed channel) … -/
theorem send_on_closed_counterexample :
    (run ⟨.closeChannel, .checkThenSend⟩ (init 10)
      [.startData 1, .startClose, .call 0, .call 0, .call 1, .call 1, .call 1, .call 1, .call 0]).map (fun s => s.calls[0]?) =
      some (some .panicked) := by decide

/-- … a second close of the same session panics (close of closed channel) … -/
theorem double_close_counterexample :
    (run ⟨.closeChannel, .checkThenSend⟩ (init 10)
      [.startClose, .startClose, .call 0, .call 1, .call 0, .call 1, .call 0, .call 1, .call 0, .call 1]).map (fun s => s.calls[1]?) =
      some (some .panicked) := by decide

/-- … and with the writer gone and the queue full, close blocks forever (no step of the call is enabled). -/
theorem close_blocks_counterexample :
    (run ⟨.closeChannel, .checkThenSend⟩ (init 1)
      [.startData 1, .call 0, .call 0, .call 0, .backendClose, .writerFail, .startClose, .call 1, .call 1]).map
      (fun s => (s.calls[1]?, (callStep ⟨.closeChannel, .checkThenSend⟩ s 1).isSome)) = some (some .closeSend, false) := by decide

-- non-vacuity: open, data, close in the good variant
example : (run good (init 10) [.startData 2, .call 0, .call 0, .call 0, .call 0, .call 0, .call 0, .startClose, .call 1, .call 1, .call 1, .writerStep, .writerStep, .writerStep, .closerStep]).map
    (fun s => (s.calls, s.backendSawClose)) = some ([.answered 200, .answered 200], true) := by decide

end InvProxy.C12
