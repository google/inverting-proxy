/-
  C17 (continued) — cache and datastore keys separate backends.  Property theorems only.
-/
import InvProxy.Model.Keys
import InvProxy.Gen.Consts
import InvProxy.Proofs.Keys
namespace InvProxy.C17b
open InvProxy InvProxy.Keys InvProxy.Gen

/-- `%q` output is a prefix code: no quoted string is a proper prefix of another one followed by anything. -/
theorem quote_prefix_free (x y s t : Bytes) (h : quote x ++ s = quote y ++ t) : x = y ∧ s = t := by
  simp only [quote, List.cons_append, List.append_assoc, List.nil_append, List.cons.injEq,
    true_and] at h
  exact escAll_quote_free x h

/-- A format that quotes both arguments gives every (backend, request) pair its own key. -/
theorem quoted_key_injective (pre mid : Bytes) (b r b' r' : Bytes)
    (h : (Fmt2.mk pre .q mid .q).key b r = (Fmt2.mk pre .q mid .q).key b' r') : b = b' ∧ r = r' := by
  simp only [Fmt2.key, Verb.fmt, List.append_assoc] at h
  obtain ⟨hb, h⟩ := quote_prefix_free _ _ _ _ (List.append_cancel_left h)
  exact ⟨hb, quote_inj (List.append_cancel_left h)⟩

/-- The formats found in the source (regenerated on every run) parse to all-quoted formats … -/
theorem source_formats_quote :
    parse2 cache_requestKeyFormat = some ⟨[114,58], .q, [58], .q⟩ ∧
    parse2 cache_responseKeyFormat = some ⟨[114,101,115,112,58], .q, [58], .q⟩ := by
  decide

/-- … so the memcache keys of two different (backend ID, request ID) pairs never coincide:
    a cache hit in `ReadRequest`/`ReadResponse` is always an entry of the backend that was authorised. -/
theorem memcache_keys_separate (f : Fmt2) (hf : parse2 cache_requestKeyFormat = some f ∨ parse2 cache_responseKeyFormat = some f)
    (b r b' r' : Bytes) (h : f.key b r = f.key b' r') : b = b' ∧ r = r' := by
  obtain ⟨h1, h2⟩ := source_formats_quote
  rcases hf with hf | hf
  · rw [h1] at hf; cases hf; exact quoted_key_injective _ _ b r b' r' h
  · rw [h2] at hf; cases hf; exact quoted_key_injective _ _ b r b' r' h

/-- The datastore kind `prefix ++ %q backendID` separates backends as well. -/
theorem request_kind_injective (pre b b' : Bytes) (h : pre ++ quote b = pre ++ quote b') : b = b' := by
  exact quote_inj (List.append_cancel_left h)

/-- Counter-example kept as a theorem: with `%s` the mapping is not injective — backend `team:prod` with
    request `R` and backend `team` with request `prod:R` share the key `r:team:prod:R`. -/
theorem unquoted_key_collides :
    (Fmt2.mk [114,58] .s [58] .s).key [116,101,97,109,58,112,114,111,100] [82] =
    (Fmt2.mk [114,58] .s [58] .s).key [116,101,97,109] [112,114,111,100,58,82] ∧
    ([116,101,97,109,58,112,114,111,100] : Bytes) ≠ [116,101,97,109] := by
  decide

/-- Non-vacuity / sanity: the model's `%q` on a string with a quote, a backslash, a newline and a NUL. -/
example : quote [97, 34, 92, 10, 0] = [34, 97, 92, 34, 92, 92, 92, 110, 92, 120, 48, 48, 34] := by decide

/-- The two key spaces are disjoint as well: a stored *request* is never read back as a *response* (or vice versa),
    whatever backend and request IDs are involved — the regenerated formats differ in their second byte. -/
theorem request_and_response_keys_disjoint (fq fp : Fmt2)
    (hq : parse2 cache_requestKeyFormat = some fq) (hp : parse2 cache_responseKeyFormat = some fp)
    (b r b' r' : Bytes) : fq.key b r ≠ fp.key b' r' := by
  obtain ⟨h1, h2⟩ := source_formats_quote
  rw [h1] at hq; rw [h2] at hp; cases hq; cases hp
  simp [Fmt2.key]

end InvProxy.C17b
