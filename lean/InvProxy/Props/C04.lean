/-
  C04 — each client request is forwarded to the backend at most once.  Property theorems only.
-/
import InvProxy.Model.Dedup
import InvProxy.Proofs.Lru
import InvProxy.Proofs.Dedup
namespace InvProxy.C04
open InvProxy InvProxy.Dedup InvProxy.Gen

variable {α : Type} [DecidableEq α]

/-- The LRU holds exactly the `cap` most recently reported distinct IDs. -/
theorem lru_is_recency (cap : Nat) (hc : 0 < cap) (h : List α) :
    Lru.after cap h = (Lru.recency h).take cap := by
  exact Lru.after_eq_take_recency cap hc h

/-- Full strength: however often, in whatever order or grouping IDs are reported, as long
    as every repeat falls inside the dedup window each ID is forwarded exactly once — at
    its first report. -/
theorem dedup_window (cap : Nat) (hc : 0 < cap) (h : List α) (hw : WindowOK cap h) :
    spawns cap h = firsts h := by
  exact spawns_eq_firsts hc h hw

/-- at most once / exactly once, spelled out -/
theorem forwarded_at_most_once (cap : Nat) (hc : 0 < cap) (h : List α) (hw : WindowOK cap h) (x : α) :
    (spawns cap h).count x = if x ∈ h then 1 else 0 := by
  rw [spawns_eq_firsts hc h hw, (nodup_firsts h).count]; simp only [mem_firsts]

/-- Sufficient condition: at most `cap` distinct IDs are reported in the whole history.  This is the strongest
    reading of the property's "at most 1000 distinct IDs are outstanding" under which the code satisfies it: the
    cache remembers *reported* IDs by recency and does not learn when a request is finished.  Read per moment -
    never more than `cap` requests pending at once, but with turnover - the property is FALSE of the code, see
    `turnover_counterexample` below (known finding C04:forwarded-twice:window-turnover).  `dedup_window` above is the
    full-strength statement that is proved; this corollary and `forwarded_at_most_once` are the partial result
    with respect to the property's wording. -/
theorem window_of_few_distinct (cap : Nat) (h : List α) (hd : (firsts h).length ≤ cap) : WindowOK cap h := by
  intro pre x mid post hh hm
  have hn : (x :: firsts mid).Nodup := List.nodup_cons.2 ⟨fun hx => hm (mem_firsts.1 hx), nodup_firsts mid⟩
  refine Nat.lt_of_lt_of_le (hn.length_le_of_subset (l₂ := firsts h) fun z hz => ?_) hd
  rw [mem_firsts, hh]
  rcases List.mem_cons.1 hz with rfl | hz
  · simp
  · simp [mem_firsts.1 hz]

/-- No premise on the history at all (any number of outstanding IDs, any repeats, any cache capacity): every listed
    ID is handed to a worker at least once and nothing that was not listed ever is — the recency cache can only cause
    a repeat, never a loss. -/
theorem never_lost_never_invented (cap : Nat) (h : List α) (x : α) : x ∈ spawns cap h ↔ x ∈ h := by
  induction h using Lru.rev_induction with
  | nil => simp [spawns]
  | append_singleton p y ih =>
    rw [spawns_append_singleton]
    split
    · next hy => simp [ih, or_iff_left_of_imp fun e : x = y => e ▸ Lru.mem_of_mem_after hy]
    · simp [ih]

/-- a repeat immediately after the report itself is always suppressed, for every capacity ≥ 1 and every history -/
theorem immediate_repeat_suppressed (cap : Nat) (hc : 0 < cap) (h : List α) (x : α) :
    spawns cap (h ++ [x] ++ [x]) = spawns cap (h ++ [x]) := by
  rw [spawns_append_singleton, if_pos]
  rw [Lru.after_append_singleton]
  exact Lru.mem_touch_self hc _ x

/-- the window clause is needed: `cap + 1` distinct IDs followed by a repeat of the first
    one forwards it twice (here cap = 2) -/
theorem dedup_needs_window_counterexample : spawns 2 [1, 2, 3, 1] = [1, 2, 3, 1] := by decide

/-- Known finding C04:forwarded-twice:window-turnover (kernel-checked here with cap = 3, replayed on the real polling
    loop with 1000 on every run): three requests are pending and listed; request 3 is answered and a new request 4
    arrives, so still three are pending; the next reply lists the new one first.  Recording 4 evicts 1 - which is
    listed next, misses, is spawned again and evicts 2, and so on.  Never more than `cap` IDs were outstanding, yet
    requests 1 and 2 are forwarded twice. -/
theorem turnover_counterexample :
    (∀ r ∈ [[1, 2, 3], [4, 1, 2]], (firsts r).length ≤ 3) ∧
    spawns 3 ([[1, 2, 3], [4, 1, 2]] : List (List Nat)).flatten = [1, 2, 3, 4, 1, 2] := by decide

/-- the cache size in the code is the documented 1000 -/
theorem cache_limit : agent_requestCacheLimit = 1000 := rfl

/-- T3: in the polling loop a worker is started only after a cache miss was recorded:
    `Get` precedes `Add` precedes `go processOneRequest`, and there is exactly one spawn site. -/
theorem poll_loop_shape :
    Skel.precedes (.call "previouslySeenRequests.Get") (.call "previouslySeenRequests.Add") skel_agent_pollForNewRequests = true ∧
    Skel.precedes (.call "previouslySeenRequests.Add") (.call "processOneRequest") skel_agent_pollForNewRequests = true ∧
    Skel.count (.call "processOneRequest") skel_agent_pollForNewRequests = 1 ∧
    Skel.count .goStart skel_agent_pollForNewRequests = 1 := by decide +kernel

/-- Proxy side: each request ID is handed to at most one pending-list response, across any
    number of concurrent pollers and any interleaving of arrivals, cancellations and polls. -/
theorem handoff_once (acts : List (HAct α)) (s : Handoff α)
    (h : hrun ⟨[], []⟩ acts = some s) : (s.offering ++ s.replies.flatten).Nodup := by
  exact hrun_inv h List.nodup_nil

/-- … and exactly one once a poll has taken it: IDs are never lost while offered -/
theorem handoff_exactly_once (acts : List (HAct α)) (s : Handoff α) (x : α)
    (h : hrun ⟨[], []⟩ acts = some s) (ha : HAct.arrive x ∈ acts) (hc : HAct.cancel x ∉ acts) :
    x ∈ s.offering ∨ (s.replies.flatten).count x = 1 := by
  refine (List.mem_append.1 (hrun_held h (Or.inr ha) hc)).imp_right fun hx => ?_
  rw [(List.nodup_append.1 (hrun_inv h List.nodup_nil)).2.1.count, if_pos hx]

/-- T3: the hand-off channel is unbuffered (capacity 0 ⇒ a receive completes exactly one
    blocked sender), the client offers its ID exactly once, and the drain loop only receives. -/
theorem handoff_shape :
    server_requestIDsCap = 0 ∧
    Skel.count (.send "p.requestIDs") skel_server_ServeHTTP = 1 ∧
    Skel.sends "p.requestIDs" skel_server_waitForRequestIDs = false ∧
    Skel.recvs "p.requestIDs" skel_server_waitForRequestIDs = true := ⟨rfl, by decide +kernel⟩

/-- size cap on a pending-list reply (regenerated from parseRequestIDs): a reply that lists a whole dedup
    window of the stand-alone proxy's IDs (64 hex digits each; JSON adds two quotes and a comma per ID and the two
    brackets) fits under the cap, so such a reply is parsed rather than truncated and every listed ID is dispatched -/
theorem full_window_reply_fits : agent_requestCacheLimit * (64 + 3) + 2 ≤ utils_pendingListByteCap := by decide

-- non-vacuity
example : spawns 3 [1, 2, 1, 3, 2, 1] = [1, 2, 3] := by decide
example : WindowOK 3 [1, 2, 1] := window_of_few_distinct 3 _ (by decide)
example : hrun (⟨[], []⟩ : Handoff Nat) [.arrive 1, .arrive 2, .poll [2], .arrive 3, .poll [1, 3]] = some ⟨[], [[2], [1, 3]]⟩ := by decide

end InvProxy.C04
