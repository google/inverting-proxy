/-
  C16 — closing one end of a bridged TCP connection closes the other.  Property theorems only.
  The code as it is (`waitBoth`) does NOT have the property (known finding D10): the first
  two theorems exhibit the stuck states; `firstDone_loses_data_counterexample` shows why the
  obvious five-line repair is not a repair; the `halfClose` theorems prove that forwarding
  end-of-stream per direction does have the property.
-/
import InvProxy.Model.BridgeLife
import InvProxy.Proofs.BridgeLife
namespace InvProxy.C16
open InvProxy InvProxy.BridgeLife InvProxy.Gen

/-- the variant both bridge sides are in (regenerated skeletons of `connection.Handler` and the frontend's `main`) -/
theorem teardown_variant :
    classify skel_connection_Handler = some .waitBoth ∧ classify skel_frontend_main = some .waitBoth := by decide +kernel

/-- waitBoth: after A closes, the bridge reaches a state with no enabled internal step in
    which B has not observed end-of-stream: the close is never propagated. -/
theorem close_stuck_counterexample :
    (run .waitBoth init [.aSend, .aClose, .f1Copy, .f1End, .h1Copy, .bRecv]).map
      (fun s => (enabledInternal .waitBoth s, goalB s, s.bGot)) = some ([], false, 1) := by decide

/-- waitBoth: even after both peers have closed, both sides stay blocked reading the
    websocket and never release their connections. -/
theorem leak_counterexample :
    (run .waitBoth init [.aClose, .bClose, .f1End, .h2End]).map
      (fun s => (enabledInternal .waitBoth s, released s)) = some ([], false) := by decide

/-- firstDone: the close is propagated, but data A sent before closing can be lost when
    the opposite direction is busy (H2's failing write tears H down before H1 has drained). -/
theorem firstDone_loses_data_counterexample :
    (run .firstDone init [.aSend, .aClose, .bSend, .f1Copy, .f1End, .fTear, .h2Copy, .hTear, .bSeeEOF]).map
      (fun s => (s.bEOF, s.bGot, s.aSent)) = some (true, 0, 1) := by decide

/-- halfClose, safety: in every reachable state what B has received plus what is still in
    flight towards B equals what A sent — nothing is lost or duplicated, whatever the
    order of sends, closes and loop steps in either direction. -/
theorem halfClose_conservation (acts : List Act) (s : St) (h : run .halfClose init acts = some s) :
    s.bGot + s.ab1.q + s.ab2.q + s.ab3.q = s.aSent ∧ s.aGot + s.ba1.q + s.ba2.q + s.ba3.q = s.bSent := by
  have hi := inv_run acts s h
  exact ⟨hi.consAB, hi.consBA⟩

/-- in particular neither peer ever receives more than the other has sent, in any reachable state -/
theorem halfClose_never_invents (acts : List Act) (s : St) (h : run .halfClose init acts = some s) :
    s.bGot ≤ s.aSent ∧ s.aGot ≤ s.bSent := by
  have := halfClose_conservation acts s h
  omega

/-- halfClose, no spurious teardown: while neither peer has closed, every loop runs and nothing is closed. -/
theorem halfClose_no_spurious (acts : List Act) (s : St) (h : run .halfClose init acts = some s)
    (ha : s.aClosed = false) (hb : s.bClosed = false) :
    s.f1 ∧ s.f2 ∧ s.h1 ∧ s.h2 ∧ s.fDown = false ∧ s.hDown = false ∧ s.aEOF = false ∧ s.bEOF = false := by
  exact no_spurious s (inv_run acts s h) ha hb

/-- halfClose, progress: once A has closed (and B has not), as long as B has not yet
    received everything and observed end-of-stream, some internal step is enabled … -/
theorem halfClose_enabled (acts : List Act) (s : St) (h : run .halfClose init acts = some s)
    (ha : s.aClosed = true) (hb : s.bClosed = false) (hg : goalB s = false) :
    enabledInternal .halfClose s ≠ [] := by
  exact enabled s (inv_run acts s h) ha hb hg

/-- … and every internal step strictly decreases the measure `mu`: B observes end-of-stream,
    with all of A's data, after at most `mu s` internal steps under any scheduling. -/
theorem halfClose_decreases (s s' : St) (a : Act) (hi : a.internal = true) (h : step .halfClose s a = some s') :
    mu s' < mu s := by
  exact decreases s s' a hi h

/-- halfClose: when both peers have closed, the bridge runs to a state with both sides
    released (no bridged connection outlives both endpoints): not released ⇒ some internal
    step is enabled. -/
theorem halfClose_released (acts : List Act) (s : St) (h : run .halfClose init acts = some s)
    (ha : s.aClosed = true) (hb : s.bClosed = true) (hr : released s = false) :
    enabledInternal .halfClose s ≠ [] := by
  exact released_enabled s (inv_run acts s h) ha hb hr

/-- T3: in `connection.Handler` the release of the bridge's websocket (`defer wsConn.Close()`) is
    registered before the TCP server is dialled, so the early return on a failed dial releases
    it too (the websocket is hijacked: net/http will not close it); the TCP side's release is
    registered right after the dial.  Likewise in the frontend for the client connection. -/
theorem release_registered_before_dial :
    Skel.precedes (.call "wsConn.Close") (.call "net.Dial") skel_connection_Handler = true ∧
    Skel.precedes (.call "net.Dial") (.call "backendConn.Close") skel_connection_Handler = true ∧
    Skel.precedes (.call "conn.Close") (.call "connection.DialWebsocket") skel_frontend_main = true := by decide +kernel

/-- regenerated fact: the frontend never sets SO_LINGER on a client connection, so when it closes the connection the
    kernel still delivers what the server had sent before closing (with a zero linger the queued data is dropped
    and the client sees a reset instead of the data followed by end-of-stream) -/
theorem frontend_closes_gracefully : bridgeFrontend_setsLinger = false := rfl

/-- regenerated fact: the frontend's websocket dial gives up a handshake that the peer never answers (gorilla's
    DefaultDialer, 45 s, or an explicit HandshakeTimeout / context deadline).  Without a bound, a client whose
    bridge peer accepts the TCP connection and then stalls never observes end-of-stream, and the frontend keeps
    the client's socket after the client has gone (thorough tier: `bridgelife` runs the stalled handshake). -/
theorem handshake_is_bounded : connection_dialBoundsHandshake = true := rfl

-- non-vacuity: a half-close run delivers the data, then the end-of-stream
example : (run .halfClose init [.aSend, .aClose, .f1Copy, .f1End, .h1Copy, .h1End, .bRecv, .bSeeEOF]).map goalB = some true := by decide

end InvProxy.C16
