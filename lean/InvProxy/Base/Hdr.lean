/-
  Base/Hdr: Go's `http.Header` (`map[string][]string`) as an association list without
  duplicate keys.  Key order is irrelevant (observations are taken per key); value order
  per key is what `Header.Values` returns.
-/
import InvProxy.Base.Bytes
namespace InvProxy

abbrev Hdr := List (Bytes × List Bytes)

namespace Hdr

/-- `h[k]` -/
def values (h : Hdr) (k : Bytes) : List Bytes :=
  match h with
  | [] => []
  | (k', vs) :: t => if k' = k then vs else values t k

/-- `h.Get(k)` for canonical `k`: first value or "". -/
def get (h : Hdr) (k : Bytes) : Bytes := ((values h k).head?).getD []

/-- `delete(h, k)` -/
def del (h : Hdr) (k : Bytes) : Hdr :=
  match h with
  | [] => []
  | (k', vs) :: t => if k' = k then del t k else (k', vs) :: del t k

/-- `h[k] = vs` -/
def put (h : Hdr) (k : Bytes) (vs : List Bytes) : Hdr := (k, vs) :: del h k

/-- `h.Set(k, v)` for canonical `k` -/
def set (h : Hdr) (k v : Bytes) : Hdr := put h k [v]

/-- `h.Add(k, v)` for canonical `k` -/
def add (h : Hdr) (k v : Bytes) : Hdr := put h k (values h k ++ [v])

def keys (h : Hdr) : List Bytes := h.map (·.1)

def has (h : Hdr) (k : Bytes) : Bool := (keys h).contains k

@[simp] theorem values_nil (k : Bytes) : values [] k = [] := rfl

theorem del_eq_filter (h : Hdr) (k : Bytes) : del h k = h.filter (fun p => !decide (p.1 = k)) := by
  induction h with
  | nil => rfl
  | cons p t ih => by_cases hk : p.1 = k <;> simp [del, hk, ih]

theorem mem_del {h : Hdr} {k : Bytes} {p : Bytes × List Bytes} : p ∈ del h k ↔ p ∈ h ∧ p.1 ≠ k := by
  simp [del_eq_filter]

theorem del_sublist (h : Hdr) (k : Bytes) : (del h k).Sublist h := by
  rw [del_eq_filter]; exact List.filter_sublist

theorem values_del (h : Hdr) (k k' : Bytes) : values (del h k) k' = if k = k' then [] else values h k' := by
  induction h with
  | nil => exact (ite_self _).symm
  | cons p t ih => by_cases hp : p.1 = k <;> by_cases hk : k = k' <;> simp_all [del, values]

theorem values_del_self (h : Hdr) (k : Bytes) : values (del h k) k = [] := by
  rw [values_del, if_pos rfl]

theorem values_del_ne (h : Hdr) (k k' : Bytes) (hne : k' ≠ k) : values (del h k) k' = values h k' := by
  rw [values_del, if_neg hne.symm]

theorem values_put (h : Hdr) (k k' : Bytes) (vs : List Bytes) :
    values (put h k vs) k' = if k = k' then vs else values h k' := by
  simp only [put, values, values_del]
  split <;> rfl

@[simp] theorem values_put_self (h : Hdr) (k : Bytes) (vs : List Bytes) : values (put h k vs) k = vs := by
  rw [values_put, if_pos rfl]

theorem values_put_ne (h : Hdr) (k k' : Bytes) (vs : List Bytes) (hne : k' ≠ k) :
    values (put h k vs) k' = values h k' := by
  rw [values_put, if_neg hne.symm]

@[simp] theorem values_set_self (h : Hdr) (k v : Bytes) : values (set h k v) k = [v] :=
  values_put_self h k [v]

theorem values_set_ne (h : Hdr) (k k' v : Bytes) (hne : k' ≠ k) :
    values (set h k v) k' = values h k' := values_put_ne h k k' [v] hne

@[simp] theorem values_add_self (h : Hdr) (k v : Bytes) :
    values (add h k v) k = values h k ++ [v] := values_put_self h k _

theorem values_add_ne (h : Hdr) (k k' v : Bytes) (hne : k' ≠ k) :
    values (add h k v) k' = values h k' := values_put_ne h k k' _ hne

theorem values_eq_nil_of_not_mem (h : Hdr) (k : Bytes) (hk : k ∉ h.map (·.1)) : values h k = [] := by
  induction h with
  | nil => rfl
  | cons p t ih =>
    simp only [List.map_cons, List.mem_cons, not_or] at hk
    simp only [values, if_neg (Ne.symm hk.1), ih hk.2]

theorem values_foldl_del (ks : List Bytes) (h : Hdr) (k : Bytes) :
    values (ks.foldl del h) k = if k ∈ ks then [] else values h k := by
  induction ks generalizing h with
  | nil => rfl
  | cons a t ih =>
    rw [List.foldl_cons, ih, values_del]
    by_cases ht : k ∈ t
    · simp [ht]
    · by_cases ha : a = k <;> simp [ht, ha, Ne.symm]

theorem mem_foldl_del {ks : List Bytes} {h : Hdr} {p : Bytes × List Bytes} :
    p ∈ ks.foldl del h ↔ p ∈ h ∧ p.1 ∉ ks := by
  induction ks generalizing h with
  | nil => simp
  | cons a t ih => rw [List.foldl_cons, ih, mem_del, List.mem_cons, not_or, and_assoc]

theorem foldl_del_sublist (ks : List Bytes) (h : Hdr) : (ks.foldl del h).Sublist h := by
  induction ks generalizing h with
  | nil => exact List.Sublist.refl _
  | cons a t ih => exact (ih _).trans (del_sublist h a)

theorem mem_keys_del {h : Hdr} {k k' : Bytes} : k' ∈ (del h k).map (·.1) ↔ k' ∈ h.map (·.1) ∧ k' ≠ k := by
  simp only [List.mem_map, mem_del]
  constructor
  · rintro ⟨p, ⟨hp, hne⟩, rfl⟩; exact ⟨⟨p, hp, rfl⟩, hne⟩
  · rintro ⟨⟨p, hp, rfl⟩, hne⟩; exact ⟨p, ⟨hp, hne⟩, rfl⟩

theorem mem_keys_put {h : Hdr} {k k' : Bytes} {vs : List Bytes} :
    k' ∈ (put h k vs).map (·.1) ↔ k' = k ∨ k' ∈ h.map (·.1) := by
  rw [put, List.map_cons, List.mem_cons, mem_keys_del]
  by_cases e : k' = k
  · simp only [e, true_or]
  · simp only [e, false_or, ne_eq, not_false_eq_true, and_true]

theorem nodup_keys_put (h : Hdr) (k : Bytes) (vs : List Bytes) (hn : (h.map (·.1)).Nodup) :
    ((put h k vs).map (·.1)).Nodup :=
  List.nodup_cons.mpr ⟨fun hm => (mem_keys_del.mp hm).2 rfl, ((del_sublist h k).map _).nodup hn⟩

/-- With unique keys a sum over the entries stored under `k` has at most one summand. -/
theorem flatMap_key {β : Type} (h : Hdr) (k : Bytes) (F : Bytes × List Bytes → List β) (hn : (h.map (·.1)).Nodup) :
    h.flatMap (fun p => if p.1 = k then F p else []) = if k ∈ h.map (·.1) then F (k, values h k) else [] := by
  induction h with
  | nil => rfl
  | cons p t ih =>
    obtain ⟨k1, vs⟩ := p
    have ⟨h1, h2⟩ := List.nodup_cons.mp hn
    rw [List.flatMap_cons, ih h2]
    by_cases hk : k1 = k
    · subst hk; simp [values, h1]
    · simp only [values, hk, Ne.symm hk, if_false, List.nil_append, List.map_cons, List.mem_cons, false_or]

theorem flatMap_key_snd (h : Hdr) (k : Bytes) (hn : (h.map (·.1)).Nodup) :
    h.flatMap (fun p => if p.1 = k then p.2 else []) = values h k := by
  rw [flatMap_key h k (·.2) hn]
  split
  · rfl
  · next hk => exact (values_eq_nil_of_not_mem h k hk).symm

def putStep (c : Bytes → Bool) (a : Hdr) (p : Bytes × List Bytes) : Hdr :=
  if c p.1 = true then a else put a p.1 p.2

/-- `for (k, vs) in l { if c k { continue }; h[k] = vs }` -/
def putAll (c : Bytes → Bool) (acc l : Hdr) : Hdr := l.foldl (putStep c) acc

theorem values_putStep (c : Bytes → Bool) (a : Hdr) (p : Bytes × List Bytes) (k : Bytes) :
    values (putStep c a p) k = if p.1 = k ∧ c k = false then p.2 else values a k := by
  unfold putStep
  by_cases hk : p.1 = k
  · subst hk; cases hc : c p.1 <;> simp
  · simp only [hk, false_and, if_false]
    split
    · rfl
    · exact values_put_ne _ _ _ _ (Ne.symm hk)

theorem mem_keys_putStep (c : Bytes → Bool) (a : Hdr) (p : Bytes × List Bytes) (k : Bytes) :
    k ∈ (putStep c a p).map (·.1) ↔ k ∈ a.map (·.1) ∨ (k = p.1 ∧ c k = false) := by
  unfold putStep
  split
  · next hc => exact ⟨Or.inl, fun h => h.elim id fun ⟨e, h2⟩ => by rw [e, hc] at h2; cases h2⟩
  · next hc =>
    rw [mem_keys_put, or_comm]
    by_cases e : k = p.1
    · simp only [e, hc, true_and]
    · simp only [e, false_and]

theorem values_putAll_sub (c : Bytes → Bool) (acc l : Hdr) (k : Bytes) :
    values (putAll c acc l) k = values acc k ∨ ∃ p ∈ l, p.1 = k ∧ values (putAll c acc l) k = p.2 := by
  induction l generalizing acc with
  | nil => exact Or.inl rfl
  | cons q t ih =>
    rcases ih (putStep c acc q) with h1 | ⟨p, hp, hk, hv⟩
    · rw [values_putStep] at h1
      split at h1
      · next hq => exact Or.inr ⟨q, List.mem_cons_self, hq.1, h1⟩
      · exact Or.inl h1
    · exact Or.inr ⟨p, List.mem_cons_of_mem _ hp, hk, hv⟩

theorem values_putAll (c : Bytes → Bool) (acc l : Hdr) (k : Bytes) (hn : (l.map (·.1)).Nodup) :
    values (putAll c acc l) k = if k ∈ l.map (·.1) ∧ c k = false then values l k else values acc k := by
  induction l generalizing acc with
  | nil => simp [putAll]
  | cons p t ih =>
    have ⟨h1, h2⟩ := List.nodup_cons.mp hn
    refine (ih (putStep c acc p) h2).trans ?_
    rw [values_putStep, List.map_cons, values]
    by_cases hk : p.1 = k
    · subst hk; cases hc : c p.1 <;> simp [h1]
    · simp only [hk, Ne.symm hk, false_and, if_false, List.mem_cons, false_or]

theorem mem_keys_putAll (c : Bytes → Bool) (acc l : Hdr) (k : Bytes) :
    k ∈ (putAll c acc l).map (·.1) ↔ k ∈ acc.map (·.1) ∨ (k ∈ l.map (·.1) ∧ c k = false) := by
  induction l generalizing acc with
  | nil => simp [putAll]
  | cons p t ih =>
    refine (ih (putStep c acc p)).trans ?_
    rw [mem_keys_putStep, List.map_cons, List.mem_cons, or_assoc, or_and_right]

theorem nodup_keys_putAll (c : Bytes → Bool) (acc l : Hdr) (hn : (acc.map (·.1)).Nodup) :
    ((putAll c acc l).map (·.1)).Nodup := by
  induction l generalizing acc with
  | nil => exact hn
  | cons p t ih =>
    refine ih (putStep c acc p) ?_
    unfold putStep
    split
    · exact hn
    · exact nodup_keys_put _ _ _ hn

end Hdr
end InvProxy
