/-
  Proofs/RespPath (C03): the generated header loops as folds, what each leaves under a key,
  and the run of the streaming writer.
-/
import InvProxy.Model.RespPath
import InvProxy.Proofs.Canon
namespace InvProxy.RespPath
open InvProxy InvProxy.Gen

/-- `for v in vs { h.Add(k, v) }` -/
def addAll (acc : Hdr) (k : Bytes) (vs : List Bytes) : Hdr := vs.foldl (fun a v => Hdr.Add a k v) acc

theorem addAll_nil (acc : Hdr) (k : Bytes) : addAll acc k [] = acc := rfl

theorem foldl_Add (acc : Hdr) (k : Bytes) (vs : List Bytes) : vs.foldl (fun a v => Hdr.Add a k v) acc = addAll acc k vs := rfl

/-- a skipped entry (`continue`) adds no values -/
theorem addAll_ite (c : Prop) [Decidable c] (acc : Hdr) (k : Bytes) (vs : List Bytes) :
    (if c then acc else addAll acc k vs) = addAll acc k (if c then [] else vs) := by
  split <;> rfl

theorem values_addAll (acc : Hdr) (k : Bytes) (vs : List Bytes) (k' : Bytes) :
    Hdr.values (addAll acc k vs) k' = Hdr.values acc k' ++ if Go.canon k = k' then vs else [] := by
  induction vs generalizing acc with
  | nil => simp [addAll]
  | cons v vs ih =>
    rw [show addAll acc k (v :: vs) = addAll (Hdr.Add acc k v) k vs from rfl, ih, Hdr.values_Add]
    split <;> simp

theorem values_foldl_addAll {α : Type} (g : α → Bytes) (f : α → List Bytes) (l : List α) (acc : Hdr) (k : Bytes) :
    Hdr.values (l.foldl (fun a p => addAll a (g p) (f p)) acc) k =
      Hdr.values acc k ++ l.flatMap (fun p => if Go.canon (g p) = k then f p else []) := by
  induction l generalizing acc with
  | nil => simp
  | cons p l ih => rw [List.foldl_cons, ih, values_addAll, List.flatMap_cons, List.append_assoc]

theorem hop_canonical : ∀ k ∈ utils_hopHeaders, Go.canon k = k := by decide

theorem values_filter (h : Hdr) (k : Bytes) :
    Hdr.values (utils_srwFilterHeader h) k =
      h.flatMap (fun p => if Go.canon p.1 = k then (if utils_hopHeaders.contains p.1 = true then [] else p.2) else []) := by
  simp only [utils_srwFilterHeader, Id.run_pure, List.forIn_pure_yield_eq_foldl, pure_bind, ite_yield, foldl_Add, addAll_ite]
  rw [values_foldl_addAll]
  rfl

theorem filter_hop (h : Hdr) (k : Bytes) (hc : ∀ p ∈ h, Go.canon p.1 = p.1) (hk : k ∈ utils_hopHeaders) :
    Hdr.values (utils_srwFilterHeader h) k = [] := by
  rw [values_filter, List.flatMap_eq_nil_iff]
  intro p hp
  rw [hc p hp]
  split
  · next e => rw [if_pos (List.contains_iff_mem.mpr (e ▸ hk))]
  · rfl

theorem filter_preserved (h : Hdr) (k : Bytes) (hwf : WF h) (hk : k ∉ utils_hopHeaders) :
    Hdr.values (utils_srwFilterHeader h) k = Hdr.values h k := by
  rw [values_filter, ← Hdr.flatMap_key_snd h k hwf.1]
  apply flatMap_congr
  intro p hp
  rw [hwf.2 p hp]
  split
  · next e => rw [if_neg (fun hc => hk (e ▸ List.contains_iff_mem.mp hc))]
  · rfl

/-- one iteration of the inner loop of `utils_srwDeclareTrailers` -/
def declStep (acc : Hdr) (x : Bytes) : Hdr :=
  if (utils_hopHeaders.contains (Go.canon (Go.trimSpace x)) || Go.canon (Go.trimSpace x) == []) = true then acc
  else Hdr.put acc (Go.canon (Go.trimSpace x)) []

/-- the candidate trailer names announced in the `Trailer` field values -/
def declNames (h : Hdr) : List Bytes :=
  (Hdr.Values h [84,114,97,105,108,101,114]).flatMap (fun v => Go.split v [44])

theorem decl_eq_foldl (h : Hdr) : utils_srwDeclareTrailers h = (declNames h).foldl declStep [] := by
  simp only [utils_srwDeclareTrailers, Id.run_pure, List.forIn_pure_yield_eq_foldl, pure_bind, ite_yield]
  exact List.foldl_flatMap.symm

theorem decl_eq_putAll (h : Hdr) :
    utils_srwDeclareTrailers h = Hdr.putAll (fun n => utils_hopHeaders.contains n || n == []) []
      ((declNames h).map fun x => (Go.canon (Go.trimSpace x), [])) := by
  rw [decl_eq_foldl, Hdr.putAll, List.foldl_map]; rfl

theorem decl_nodup (h : Hdr) : ((utils_srwDeclareTrailers h).map (·.1)).Nodup := by
  rw [decl_eq_putAll]; exact Hdr.nodup_keys_putAll _ _ _ List.nodup_nil

theorem mem_keys_decl (h : Hdr) (t : Bytes) :
    t ∈ (utils_srwDeclareTrailers h).map (·.1) ↔
      t ∈ (declNames h).map (fun x => Go.canon (Go.trimSpace x)) ∧ t ∉ utils_hopHeaders ∧ t ≠ [] := by
  rw [decl_eq_putAll, Hdr.mem_keys_putAll]
  simp

theorem decl_canonical (h : Hdr) (t : Bytes) (ht : t ∈ (utils_srwDeclareTrailers h).map (·.1)) : Go.canon t = t := by
  obtain ⟨x, _, rfl⟩ := List.mem_map.mp ((mem_keys_decl h t).mp ht).1
  exact Go.canon_idem _

theorem decl_values (h : Hdr) (k : Bytes) : Hdr.values (utils_srwDeclareTrailers h) k = [] := by
  rw [decl_eq_putAll]
  rcases Hdr.values_putAll_sub _ [] _ k with h1 | ⟨p, hp, _, hv⟩
  · exact h1
  · obtain ⟨x, _, rfl⟩ := List.mem_map.mp hp
    exact hv

theorem decl_mem (h : Hdr) (v t : Bytes) (hv : v ∈ Hdr.Values h [84,114,97,105,108,101,114])
    (ht : t ∈ (Go.split v [44]).map (fun k => Go.canon (Go.trimSpace k)))
    (hne : t ≠ []) (hh : t ∉ utils_hopHeaders) : t ∈ (utils_srwDeclareTrailers h).map (·.1) := by
  refine (mem_keys_decl h t).mpr ⟨?_, hh, hne⟩
  obtain ⟨x, hx, rfl⟩ := List.mem_map.mp ht
  exact List.mem_map.mpr ⟨x, List.mem_flatMap.mpr ⟨v, hv, hx⟩, rfl⟩

/-- what the second loop of `Close` contributes for one header entry -/
def undeclVals (p : Bytes × List Bytes) : List Bytes :=
  if (!(Go.cutPrefix2 p.1 trailerPrefix).2) = true then []
  else if utils_hopHeaders.contains (Go.cutPrefix2 p.1 trailerPrefix).1 = true then [] else p.2

theorem values_collect (w t0 : Hdr) (k : Bytes) :
    Hdr.values (utils_srwCollectTrailers w t0) k =
      Hdr.values t0 k
      ++ t0.flatMap (fun p => if Go.canon p.1 = k then Hdr.Values w p.1 else [])
      ++ w.flatMap (fun p => if Go.canon (Go.cutPrefix2 p.1 trailerPrefix).1 = k then undeclVals p else []) := by
  simp only [utils_srwCollectTrailers, Id.run_pure, List.forIn_pure_yield_eq_foldl, pure_bind, ite_yield, foldl_Add, addAll_ite]
  rw [values_foldl_addAll, values_foldl_addAll]
  rfl

/-- `Trailer:`-prefixed keys carry a canonical field name after the prefix -/
def SuffixCanon (h : Hdr) : Prop :=
  ∀ p ∈ h, (Go.cutPrefix2 p.1 trailerPrefix).2 = true →
    Go.canon (Go.cutPrefix2 p.1 trailerPrefix).1 = (Go.cutPrefix2 p.1 trailerPrefix).1

theorem values_trailer (w hh : Hdr) (k : Bytes) :
    Hdr.values (utils_srwCollectTrailers w (utils_srwDeclareTrailers hh)) k =
      (if k ∈ (utils_srwDeclareTrailers hh).map (·.1) then Hdr.values w k else [])
      ++ w.flatMap (fun p => if Go.canon (Go.cutPrefix2 p.1 trailerPrefix).1 = k then undeclVals p else []) := by
  rw [values_collect, decl_values, List.nil_append, ← Hdr.flatMap_key _ k (fun _ => Hdr.values w k) (decl_nodup hh)]
  congr 1
  apply flatMap_congr
  intro p hp
  rw [Hdr.Values, decl_canonical hh p.1 (List.mem_map_of_mem hp)]
  split
  · next e => rw [e]
  · rfl

-- the hop-by-hop test is left as the `contains` the code makes: an `if k ∈ …` here is twice as dear to check
theorem undecl_suffixCanon (w : Hdr) (k : Bytes) (hsc : SuffixCanon w) :
    w.flatMap (fun p => if Go.canon (Go.cutPrefix2 p.1 trailerPrefix).1 = k then undeclVals p else []) =
      if utils_hopHeaders.contains k = true then [] else w.flatMap (fun p => if p.1 = trailerPrefix ++ k then p.2 else []) := by
  have key : ∀ p ∈ w, (if Go.canon (Go.cutPrefix2 p.1 trailerPrefix).1 = k then undeclVals p else []) =
      if utils_hopHeaders.contains k = true then [] else if p.1 = trailerPrefix ++ k then p.2 else [] := by
    intro p hp
    unfold undeclVals
    by_cases hf : (Go.cutPrefix2 p.1 trailerPrefix).2 = true
    · have he : p.1 = trailerPrefix ++ k ↔ (Go.cutPrefix2 p.1 trailerPrefix).1 = k :=
        ⟨fun h => by rw [h, Go.cutPrefix2_append], fun h => h ▸ Go.eq_append_of_cutPrefix2 hf⟩
      simp only [hsc p hp hf, he, hf, Bool.not_true, Bool.false_eq_true, if_false]
      by_cases hs : (Go.cutPrefix2 p.1 trailerPrefix).1 = k
      · simp only [hs, if_true]
      · simp only [hs, if_false, ite_self]
    · have : ¬ p.1 = trailerPrefix ++ k := fun e => hf (by rw [e, Go.cutPrefix2_append])
      simp only [hf, Bool.not_false, if_true, ite_self, this, if_false]
  rw [flatMap_congr key]
  split
  · exact List.flatMap_eq_nil_iff.mpr fun _ _ => rfl
  · rfl

theorem trailer_hop (w hh : Hdr) (k : Bytes) (hsc : SuffixCanon w) (hk : k ∈ utils_hopHeaders) :
    Hdr.values (utils_srwCollectTrailers w (utils_srwDeclareTrailers hh)) k = [] := by
  rw [values_trailer, undecl_suffixCanon w k hsc, if_pos (List.contains_iff_mem.mpr hk),
    if_neg fun hm => ((mem_keys_decl hh k).mp hm).2.1 hk]
  rfl

theorem trailer_declared (w hh : Hdr) (t : Bytes)
    (hin : t ∈ (utils_srwDeclareTrailers hh).map (·.1))
    (hnp : ∀ p ∈ w, (Go.cutPrefix2 p.1 trailerPrefix).2 = true → Go.canon (Go.cutPrefix2 p.1 trailerPrefix).1 ≠ t) :
    Hdr.values (utils_srwCollectTrailers w (utils_srwDeclareTrailers hh)) t = Hdr.values w t := by
  rw [values_trailer, if_pos hin, List.flatMap_eq_nil_iff.mpr, List.append_nil]
  intro p hp
  unfold undeclVals
  by_cases hf : (Go.cutPrefix2 p.1 trailerPrefix).2 = true
  · rw [if_neg (hnp p hp hf)]
  · simp [hf]

theorem trailer_undeclared (w hh : Hdr) (t : Bytes) (hh' : t ∉ utils_hopHeaders)
    (hnd : t ∉ (utils_srwDeclareTrailers hh).map (·.1))
    (hn : (w.map (·.1)).Nodup) (hsc : SuffixCanon w) :
    Hdr.values (utils_srwCollectTrailers w (utils_srwDeclareTrailers hh)) t = Hdr.values w (trailerPrefix ++ t) := by
  rw [values_trailer, if_neg hnd, undecl_suffixCanon w t hsc, if_neg fun h => hh' (List.contains_iff_mem.mp h),
    Hdr.flatMap_key_snd w _ hn]
  rfl

def copyHStep (acc : Hdr) (p : Bytes × List Bytes) : Hdr :=
  if server_isHopByHopHeader p.1 = true then acc else Hdr.put acc p.1 p.2

theorem copyH_eq_foldl (h wh : Hdr) :
    server_copyResponseHeader h wh =
      Hdr.Add (h.foldl copyHStep wh) [116,114,97,110,115,102,101,114,45,101,110,99,111,100,105,110,103] [99,104,117,110,107,101,100] := by
  simp only [server_copyResponseHeader, Id.run_pure, List.forIn_pure_yield_eq_foldl, pure_bind, ite_yield]
  rfl

theorem values_copyH (h : Hdr) (k : Bytes) (hn : (h.map (·.1)).Nodup) (hk : server_isHopByHopHeader k = false) :
    Hdr.values (server_copyResponseHeader h []) k = Hdr.values h k := by
  -- the field added at the end is itself hop-by-hop
  have hte : Go.canon [116,114,97,110,115,102,101,114,45,101,110,99,111,100,105,110,103] ≠ k :=
    fun e => absurd (e ▸ hk) (by decide)
  rw [copyH_eq_foldl, Hdr.values_Add, if_neg hte, List.append_nil]
  refine (Hdr.values_putAll server_isHopByHopHeader [] h k hn).trans ?_
  split
  · rfl
  · next hm => exact (Hdr.values_eq_nil_of_not_mem h k fun hm' => hm ⟨hm', hk⟩).symm

theorem canon_trailerPrefix (x : Bytes) : Go.canon (trailerPrefix ++ x) = trailerPrefix ++ x :=
  Go.canon_append _ x (by decide)

theorem values_copyT (h wh : Hdr) (k : Bytes) :
    Hdr.values (server_copyResponseTrailer h wh) k =
      Hdr.values wh k ++ h.flatMap fun p =>
        if trailerPrefix ++ p.1 = k then (if server_isHopByHopHeader p.1 = true then [] else p.2) else [] := by
  simp only [server_copyResponseTrailer, Id.run_pure, List.forIn_pure_yield_eq_foldl, pure_bind, ite_yield, foldl_Add, addAll_ite]
  rw [values_foldl_addAll]
  simp only [show ([84, 114, 97, 105, 108, 101, 114, 58] : Bytes) = trailerPrefix from rfl, canon_trailerPrefix]

theorem values_copyT_trailer (h wh : Hdr) (t : Bytes) (hn : (h.map (·.1)).Nodup) (ht : server_isHopByHopHeader t = false) :
    Hdr.values (server_copyResponseTrailer h wh) (Go.canon (trailerPrefix ++ t)) =
      Hdr.values wh (Go.canon (trailerPrefix ++ t)) ++ Hdr.values h t := by
  rw [canon_trailerPrefix, values_copyT, ← Hdr.flatMap_key_snd h t hn]
  congr 1
  apply flatMap_congr
  intro p _
  by_cases e : p.1 = t
  · rw [if_pos e, if_pos (congrArg _ e), e, ht]; rfl
  · rw [if_neg e, if_neg fun h => e (List.append_cancel_left h)]

/-- the effect of one handler operation on the handler's header map -/
def hdrStep (h : Hdr) (op : HOp) : Hdr :=
  match op with
  | .setHeader k v => Hdr.set h k v | .addHeader k v => Hdr.add h k v | .delHeader k => Hdr.del h k
  | _ => h

theorem bodyOf_cons (op : HOp) (t : List HOp) :
    bodyOf (op :: t) = (match op with | .write bs => bs | _ => []) ++ bodyOf t := rfl

-- On a literal state every `step` that only moves the handler's map reduces by itself, so `ih` closes it as it stands.
theorem run_wrote (ops : List HOp) (h : Hdr) (c : Int) (rh tr : Hdr) (b : Bytes) :
    ops.foldl SRW.step ⟨h, true, c, rh, tr, b⟩ = ⟨ops.foldl hdrStep h, true, c, rh, tr, b ++ bodyOf ops⟩ := by
  induction ops generalizing h b with
  | nil => rw [bodyOf, List.flatMap_nil, List.append_nil]; rfl
  | cons op t ih =>
    cases op with
    | write bs => exact (ih h (b ++ bs)).trans (by rw [List.append_assoc]; rfl)
    | _ => exact ih _ _

theorem run_close (ops : List HOp) (h : Hdr) (c : Int) (rh tr : Hdr) (b : Bytes) :
    (ops.foldl SRW.step ⟨h, false, c, rh, tr, b⟩).close =
      ⟨ops.foldl hdrStep h, true, finalStatus ops, utils_srwFilterHeader (headerAtHead h ops),
        utils_srwCollectTrailers (ops.foldl hdrStep h) (utils_srwDeclareTrailers (headerAtHead h ops)), b ++ bodyOf ops⟩ := by
  have ignores_200 : utils_srwIgnoresStatus 200 = false := by decide
  induction ops generalizing h b with
  | nil => simp [SRW.close, SRW.writeHeader, ignores_200, finalStatus, headerAtHead, bodyOf]
  | cons op t ih =>
    cases op with
    | writeHeader c' =>
      cases hi : utils_srwIgnoresStatus c'
      · simp [SRW.step, SRW.writeHeader, hi, run_wrote, SRW.close, finalStatus, headerAtHead, hdrStep, bodyOf_cons]
      · simp [SRW.step, SRW.writeHeader, hi, ih, finalStatus, headerAtHead, hdrStep, bodyOf_cons]
    | write bs => simp [SRW.step, SRW.writeHeader, ignores_200, run_wrote, SRW.close, finalStatus, headerAtHead, hdrStep, bodyOf_cons]
    | _ => exact ih _ _

theorem output_eq (ops : List HOp) :
    output ops = { status := finalStatus ops, hdr := utils_srwFilterHeader (headerAtHead [] ops), body := bodyOf ops,
                   trailer := utils_srwCollectTrailers (headerAtClose ops) (utils_srwDeclareTrailers (headerAtHead [] ops)) } := by
  rw [output, SRW.init, run_close]
  rfl

/-- `C03.srw_declared_trailers` without `SuffixCanon`: the exclusion is stated on the canonicalised suffix -/
theorem srw_declared_trailers_fixed' (ops : List HOp) (v t : Bytes)
    (hv : v ∈ Hdr.Values (headerAtHead [] ops) [84,114,97,105,108,101,114])
    (ht : t ∈ (Go.split v [44]).map (fun k => Go.canon (Go.trimSpace k)))
    (hne : t ≠ []) (hh : t ∉ utils_hopHeaders)
    (hnp : ∀ p ∈ headerAtClose ops, (Go.cutPrefix2 p.1 trailerPrefix).2 = true →
      Go.canon (Go.cutPrefix2 p.1 trailerPrefix).1 ≠ t)
    (hc : Go.canon t = t) :
    Hdr.values (output ops).trailer t = Hdr.values (headerAtClose ops) t := by
  have _ := hc  -- not needed: a declared name is canonical
  rw [output_eq]
  exact trailer_declared _ _ t (decl_mem _ v t hv ht hne hh) hnp

/-! ### machine-checked refutations of three C03 statements as first written

  Counterexamples (all with well-formed maps):
  * `srw_hop_filtered`, header part: `[.setHeader "te" "x"]` gives `hdr["Te"] = ["x"]`;
    trailer part: `[.setHeader "Trailer:te" "x"]` gives `trailer["Te"] = ["x"]`.
  * `srw_declared_trailers`: `Trailer: A` declared and `Trailer:a: x` give `trailer["A"] = ["x"]` while the
    handler's map has nothing under `"A"` (with `A: y` set as well the trailer is `["y","x"]`).
  * `srw_undeclared_trailers`: `[.setHeader "Trailer:a" "x"]` gives `trailer["A"] = ["x"]` while the
    handler's map has nothing under `"Trailer:A"`.
  The common cause: `Header.Add` canonicalises the name after the `Trailer:` prefix was cut (or a name that
  the handler stored uncanonicalised), so the hop-by-hop test and the declared/undeclared split are made
  on a different name than the one written.  `SuffixCanon` (and canonical keys at the head) repair all three;
  the statements in Props/C03 carry these hypotheses.
  Each proof evaluates the statement's instance at the witness in one `decide`: a `decide` per hypothesis
  pays the same fixed price several times. -/

/-- `srw_hop_filtered` as first stated fails for the header map: `te: x` (uncanonical key) -/
theorem srw_hop_filtered_orig_false_hdr :
    ¬ ∀ (ops : List HOp) (k : Bytes), k ∈ utils_hopHeaders →
      Hdr.values (output ops).hdr k = [] ∧ Hdr.values (output ops).trailer k = [] :=
  fun h => absurd (h [.setHeader [116,101] [120]] [84,101]) (by decide)

/-- … and for the trailer map even with well-formed handler maps: `Trailer:te: x` -/
theorem srw_hop_filtered_orig_false_trailer :
    ¬ ∀ (ops : List HOp) (k : Bytes), k ∈ utils_hopHeaders → WF (headerAtHead [] ops) → WF (headerAtClose ops) →
      Hdr.values (output ops).hdr k = [] ∧ Hdr.values (output ops).trailer k = [] :=
  fun h => absurd (h [.setHeader (trailerPrefix ++ [116,101]) [120]] [84,101]) (by unfold WF; decide)

/-- `srw_declared_trailers` as first stated fails: `Trailer: A`, `Trailer:a: x` -/
theorem srw_declared_trailers_orig_false :
    ¬ ∀ (ops : List HOp) (v t : Bytes),
      v ∈ Hdr.Values (headerAtHead [] ops) [84,114,97,105,108,101,114] →
      t ∈ (Go.split v [44]).map (fun k => Go.canon (Go.trimSpace k)) →
      t ≠ [] → t ∉ utils_hopHeaders →
      (∀ k ∈ (headerAtClose ops).map (·.1), Go.cutPrefix2 k trailerPrefix ≠ (t, true)) →
      WF (headerAtClose ops) → Go.canon t = t →
      Hdr.values (output ops).trailer t = Hdr.values (headerAtClose ops) t :=
  fun h => absurd (h [.setHeader [84,114,97,105,108,101,114] [65], .setHeader (trailerPrefix ++ [97]) [120]] [65] [65])
    (by unfold WF; decide)

/-- `srw_undeclared_trailers` as first stated fails: `Trailer:a: x` -/
theorem srw_undeclared_trailers_orig_false :
    ¬ ∀ (ops : List HOp) (t : Bytes), t ∉ utils_hopHeaders → Go.canon t = t →
      t ∉ (utils_srwDeclareTrailers (headerAtHead [] ops)).map (·.1) →
      WF (headerAtClose ops) →
      Hdr.values (output ops).trailer t = Hdr.values (headerAtClose ops) (trailerPrefix ++ t) :=
  fun h => absurd (h [.setHeader (trailerPrefix ++ [97]) [120]] [65]) (by unfold WF; decide)

end InvProxy.RespPath
