/-
  Proofs/Workers — helper lemmas for C07 (worker product model).
-/
import InvProxy.Model.Workers
namespace InvProxy.Workers
open InvProxy

/-- `wstep` without overlapping patterns (whose own equations carry side conditions): each fault is tested
    only in the state where it matters -/
theorem wstep_eq (pc : Pc) (f : Option Fault) : wstep pc f =
    match pc with
    | .fetching => if f = some .fetchFail then .finished (.gaveUp .fetchFail) else .connecting
    | .connecting => if f = some .connectFail then .uploading 502 else .readingHead
    | .readingHead => if f = some .headFail then .uploading 502 else .streaming
    | .streaming => .uploading 200
    | .uploading st => if f = some .uploadFail then .finished (.gaveUp .uploadFail) else .finished (.served st)
    | .finished o => .finished o := by
  cases pc <;> rcases f with _ | _ | _ | _ | _ | _ <;> rfl

def rank : Pc → Nat
  | .fetching => 5
  | .connecting => 4
  | .readingHead => 3
  | .streaming => 2
  | .uploading _ => 1
  | .finished _ => 0

theorem rank_wstep (pc : Pc) (f : Option Fault) : rank (wstep pc f) ≤ rank pc - 1 := by
  -- 6 states × 6 faults; in each case both sides compute (`decide` does not apply: status and outcome stay variables)
  cases pc <;> rcases f with _ | _ | _ | _ | _ | _ <;> exact Nat.le_of_ble_eq_true rfl

theorem rank_wrun (pc : Pc) (fs : List (Option Fault)) : rank (wrun pc fs) ≤ rank pc - fs.length := by
  induction fs generalizing pc with
  | nil => exact Nat.le_refl _
  | cons f t ih =>
    rw [List.length_cons, Nat.add_comm, ← Nat.sub_sub]
    exact Nat.le_trans (ih _) (Nat.sub_le_sub_right (rank_wstep pc f) _)

theorem rank_zero (pc : Pc) (h : rank pc = 0) : ∃ o, pc = .finished o := by
  cases pc <;> simp [rank] at h
  exact ⟨_, rfl⟩

theorem wrun_finished (o : Outcome) (fs : List (Option Fault)) : wrun (.finished o) fs = .finished o := by
  induction fs with
  | nil => rfl
  | cons f t ih => simpa [wrun, wstep] using ih

/-- no proxy leg has failed and any status chosen is 200 or 502 -/
def Ok : Pc → Prop
  | .uploading st | .finished (.served st) => st = 200 ∨ st = 502
  | .finished (.gaveUp _) => False
  | _ => True

theorem ok_wstep {pc : Pc} {f : Option Fault} (h : Ok pc) (h1 : f ≠ some .fetchFail) (h2 : f ≠ some .uploadFail) :
    Ok (wstep pc f) := by
  rw [wstep_eq]
  cases pc <;> simp only [h1, h2, if_false]
  case uploading st => exact h
  case finished o => exact h
  all_goals (try split) <;> simp [Ok]

theorem served_of_ok (pc : Pc) (fs : List (Option Fault)) (hr : rank pc ≤ fs.length) (hok : Ok pc)
    (h1 : some Fault.fetchFail ∉ fs) (h2 : some Fault.uploadFail ∉ fs) :
    ∃ st, (st = 200 ∨ st = 502) ∧ wrun pc fs = .finished (.served st) := by
  induction fs generalizing pc with
  | nil =>
    obtain ⟨o, rfl⟩ := rank_zero pc (Nat.le_zero.1 hr)
    cases o with
    | served st => exact ⟨st, hok, rfl⟩
    | gaveUp f => exact hok.elim
  | cons f t ih =>
    rw [List.mem_cons, not_or] at h1 h2
    refine ih _ ?_ (ok_wstep hok (Ne.symm h1.1) (Ne.symm h2.1)) h1.2 h2.2
    exact Nat.le_trans (rank_wstep pc f) (Nat.sub_le_of_le_add hr)

theorem served_unless_proxy_fails (fs : List (Option Fault)) (h : 5 ≤ fs.length)
    (h1 : some Fault.fetchFail ∉ fs) (h2 : some Fault.uploadFail ∉ fs) :
    ∃ st, (st = 200 ∨ st = 502) ∧ wrun .fetching fs = .finished (.served st) :=
  served_of_ok .fetching fs h trivial h1 h2

theorem proj_cons (j i : Nat) (f : Option Fault) (t : List (Nat × Option Fault)) :
    proj j ((i, f) :: t) = if i = j then f :: proj j t else proj j t := by
  by_cases h : i = j <;> simp [proj, h]

theorem astep_getElem? (a : Agent) (i j : Nat) (f : Option Fault) :
    (astep a i f)[j]? = if i = j then a[j]?.map (wstep · f) else a[j]? := by
  unfold astep
  split
  · rename_i pc hi
    rw [List.getElem?_set]
    split
    · subst_vars; obtain ⟨h, rfl⟩ := List.getElem?_eq_some_iff.1 hi; simp [h]
    · rfl
  · rename_i hi; split
    · subst_vars; simp [hi]
    · rfl

theorem arun_getElem? (a : Agent) (sched : List (Nat × Option Fault)) (j : Nat) :
    (arun a sched)[j]? = a[j]?.map (wrun · (proj j sched)) := by
  induction sched generalizing a with
  | nil => simp [arun, proj, wrun]
  | cons p t ih =>
    obtain ⟨i, f⟩ := p
    rw [arun, ih, astep_getElem?, proj_cons]
    split <;> simp [wrun, Option.map_map, Function.comp_def]

theorem astep_length (a : Agent) (i : Nat) (f : Option Fault) : (astep a i f).length = a.length := by
  unfold astep; split <;> simp

theorem arun_length (a : Agent) (sched : List (Nat × Option Fault)) : (arun a sched).length = a.length := by
  induction sched generalizing a with
  | nil => rfl
  | cons p t ih => obtain ⟨i, f⟩ := p; simp only [arun]; rw [ih, astep_length]

end InvProxy.Workers
