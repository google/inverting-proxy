/-
  Proofs/ConnOpt (C09, C02): helper lemmas about `Hdr.dropConnOption` (the hand model of
  `keepEndToEnd`), `Hdr.connOptions` / `Hdr.connDrops`, `Go.split` vs `Hdr.joinBytes`,
  `Go.canon` vs `Hdr.equalFold`, what `agent_forwardRequestHeader` does to a header map, and
  `websockets_stripWSHeader` as a guarded copy (`Hdr.putAll`).
-/
import InvProxy.Proofs.Canon
import InvProxy.Gen.Consts
import InvProxy.Gen.Funcs
namespace InvProxy.ConnOpt
open InvProxy InvProxy.Gen

theorem splitOn1_free (sep : UInt8) (s cur : Bytes) (hcur : sep ∉ cur) :
    ∀ o ∈ Go.splitOn1 sep s cur, sep ∉ o := by
  induction s generalizing cur with
  | nil =>
    intro o ho
    simp only [Go.splitOn1, List.mem_singleton] at ho
    subst ho
    simpa using hcur
  | cons c t ih =>
    intro o ho
    simp only [Go.splitOn1] at ho
    by_cases hc : c = sep
    · rw [if_pos hc] at ho
      rcases List.mem_cons.mp ho with rfl | ho
      · simpa using hcur
      · exact ih [] (by simp) o ho
    · rw [if_neg hc] at ho
      refine ih (c :: cur) ?_ o ho
      intro hm
      rcases List.mem_cons.mp hm with e | e
      · exact hc e.symm
      · exact hcur e

theorem split_free (sep : UInt8) (v : Bytes) : ∀ o ∈ Go.split v [sep], sep ∉ o :=
  splitOn1_free sep v [] (by simp)

theorem splitOn1_append_free (sep : UInt8) (x rest cur : Bytes) (hx : sep ∉ x) :
    Go.splitOn1 sep (x ++ rest) cur = Go.splitOn1 sep rest (x.reverse ++ cur) := by
  induction x generalizing cur with
  | nil => rfl
  | cons c t ih =>
    have hc : ¬ c = sep := fun e => hx (by simp [e])
    have ht : sep ∉ t := fun e => hx (List.mem_cons_of_mem _ e)
    simp only [List.cons_append, Go.splitOn1, if_neg hc]
    rw [ih _ ht]
    simp

theorem splitOn1_join (sep : UInt8) (x : Bytes) (t : List Bytes) (hfree : ∀ o ∈ x :: t, sep ∉ o) (cur : Bytes) :
    Go.splitOn1 sep (Hdr.joinBytes [sep] (x :: t)) cur = (cur.reverse ++ x) :: t := by
  induction t generalizing x cur with
  | nil => simpa [Hdr.joinBytes, Go.splitOn1] using splitOn1_append_free sep x [] cur (hfree x List.mem_cons_self)
  | cons y t ih =>
    rw [Hdr.joinBytes, List.append_assoc, splitOn1_append_free sep x _ cur (hfree x List.mem_cons_self), List.singleton_append, Go.splitOn1, if_pos rfl,
      ih y (fun o ho => hfree o (List.mem_cons_of_mem _ ho)) []]
    simp

/-- `strings.Split(strings.Join(opts, ","), ",") = opts` -/
theorem split_join (sep : UInt8) (opts : List Bytes) (hne : opts ≠ [])
    (hfree : ∀ o ∈ opts, sep ∉ o) :
    Go.split (Hdr.joinBytes [sep] opts) [sep] = opts := by
  obtain ⟨x, t, rfl⟩ := List.exists_cons_of_ne_nil hne
  exact splitOn1_join sep x t hfree []

theorem equalFold_of_canon_eq (a b : Bytes) (h : Go.canon a = Go.canon b) : Hdr.equalFold a b = true := by
  have : Go.toLower a = Go.toLower b := by
    rw [← Go.toLower_canon a, ← Go.toLower_canon b, h]
  simp [Hdr.equalFold, this]

/-- the `Connection` values `dropConnOption` leaves -/
def keptVals (h : Hdr) (name : Bytes) : List Bytes :=
  (Hdr.values h Hdr.connKey).filterMap fun v =>
    let opts := (Go.split v [44]).filter fun o => !(Hdr.equalFold (Go.trimSpace o) name)
    if opts.isEmpty then none else some (Hdr.joinBytes [44] opts)

theorem drop_eq (h : Hdr) (name : Bytes) :
    Hdr.dropConnOption h name =
      if (keptVals h name).isEmpty then Hdr.del h Hdr.connKey else Hdr.put h Hdr.connKey (keptVals h name) := rfl

theorem values_dropConnOption (h : Hdr) (name k : Bytes) :
    Hdr.values (Hdr.dropConnOption h name) k = if k = Hdr.connKey then keptVals h name else Hdr.values h k := by
  rw [drop_eq]
  by_cases hk : k = Hdr.connKey
  · subst hk
    rw [if_pos rfl]
    split
    · next he => rw [Hdr.values_del_self, List.isEmpty_iff.mp he]
    · exact Hdr.values_put_self _ _ _
  · rw [if_neg hk]
    split
    · exact Hdr.values_del_ne _ _ _ hk
    · exact Hdr.values_put_ne _ _ _ _ hk

theorem values_drop_ne (h : Hdr) (name k : Bytes) (hk : k ≠ Hdr.connKey) :
    Hdr.values (Hdr.dropConnOption h name) k = Hdr.values h k := by
  rw [values_dropConnOption, if_neg hk]

theorem values_drop_nil (h : Hdr) (name k : Bytes) (hv : Hdr.values h k = []) :
    Hdr.values (Hdr.dropConnOption h name) k = [] := by
  rw [values_dropConnOption]
  split
  · next e => simp [keptVals, ← e, hv]
  · exact hv

theorem connOptions_drop (h : Hdr) (name : Bytes) :
    Hdr.connOptions (Hdr.dropConnOption h name) =
      (Hdr.connOptions h).filter (fun o => !(Hdr.equalFold o name)) := by
  unfold Hdr.connOptions
  rw [values_dropConnOption, if_pos rfl, keptVals]
  generalize Hdr.values h Hdr.connKey = l
  induction l with
  | nil => rfl
  | cons v t ih =>
    simp only [List.filterMap_cons, List.flatMap_cons, List.filter_append]
    have hm : ((Go.split v [44]).map Go.trimSpace).filter (fun o => !(Hdr.equalFold o name)) =
        ((Go.split v [44]).filter fun o => !(Hdr.equalFold (Go.trimSpace o) name)).map Go.trimSpace := by
      rw [List.filter_map]; rfl
    by_cases he : ((Go.split v [44]).filter fun o => !(Hdr.equalFold (Go.trimSpace o) name)).isEmpty = true
    · simp only [he, if_true]
      rw [ih, hm, List.isEmpty_iff.mp he]
      rfl
    · simp only [he]
      simp only [Bool.false_eq_true, if_false, List.flatMap_cons]
      rw [ih, hm]
      have hne : ((Go.split v [44]).filter fun o => !(Hdr.equalFold (Go.trimSpace o) name)) ≠ [] :=
        fun e => he (List.isEmpty_iff.mpr e)
      rw [split_join 44 _ hne (fun o ho => split_free 44 v o (List.mem_filter.mp ho).1)]

theorem connOptions_congr (h h' : Hdr) (e : Hdr.values h' Hdr.connKey = Hdr.values h Hdr.connKey) :
    Hdr.connOptions h' = Hdr.connOptions h := by
  unfold Hdr.connOptions; rw [e]

theorem connDrops_nil (h : Hdr) (e : Hdr.values h Hdr.connKey = []) : Hdr.connDrops h = [] := by
  unfold Hdr.connDrops Hdr.connOptions; rw [e]; rfl

theorem values_dropConnNamed (h : Hdr) (k : Bytes) :
    Hdr.values (Hdr.dropConnNamed h) k = if k ∈ Hdr.connDrops h then [] else Hdr.values h k :=
  Hdr.values_foldl_del _ _ _

theorem fwd_eq (fu sc : Bool) (u : Bytes) (h : Hdr) :
    agent_forwardRequestHeader fu sc u h =
      (if sc then Hdr.del (if fu then Hdr.dropConnOption (Hdr.set h (Go.canon utils_HeaderUserID) u) utils_HeaderUserID else h)
          (Go.canon agent_headerAuthorization)
       else (if fu then Hdr.dropConnOption (Hdr.set h (Go.canon utils_HeaderUserID) u) utils_HeaderUserID else h)) := by
  cases fu <;> cases sc <;> simp [agent_forwardRequestHeader, Id.run, pure, Hdr.Set, Hdr.Del]

/-- the edits add no field but the identity header -/
theorem values_fwd_nil (fu sc : Bool) (u : Bytes) (h : Hdr) (k : Bytes) (hk : k ≠ Go.canon utils_HeaderUserID)
    (hv : Hdr.values h k = []) : Hdr.values (agent_forwardRequestHeader fu sc u h) k = [] := by
  have e : Hdr.values (if fu then Hdr.dropConnOption (Hdr.set h (Go.canon utils_HeaderUserID) u) utils_HeaderUserID else h) k = [] := by
    split
    · exact values_drop_nil _ _ _ ((Hdr.values_set_ne _ _ _ _ hk).trans hv)
    · exact hv
  rw [fwd_eq]
  split
  · rw [Hdr.values_del]
    split
    · rfl
    · exact e
  · exact e

theorem connOptions_fwd (fu sc : Bool) (u : Bytes) (h : Hdr) :
    Hdr.connOptions (agent_forwardRequestHeader fu sc u h) =
      if fu then (Hdr.connOptions h).filter (fun o => !(Hdr.equalFold o utils_HeaderUserID)) else Hdr.connOptions h := by
  have hset : Hdr.connOptions (Hdr.set h (Go.canon utils_HeaderUserID) u) = Hdr.connOptions h :=
    connOptions_congr _ _ (Hdr.values_set_ne _ _ _ _ (by decide))
  have hdel : ∀ g : Hdr, Hdr.connOptions (Hdr.del g (Go.canon agent_headerAuthorization)) = Hdr.connOptions g :=
    fun g => connOptions_congr _ _ (Hdr.values_del_ne _ _ _ (by decide))
  rw [fwd_eq]
  cases fu <;> cases sc <;> simp only [if_true, if_false, Bool.false_eq_true, hdel, connOptions_drop, hset]

end InvProxy.ConnOpt

namespace InvProxy.StripWS
open InvProxy InvProxy.Gen

theorem strip_eq_putAll (h : Hdr) :
    websockets_stripWSHeader h = Hdr.putAll websockets_stripHeaderNames.contains [] h := by
  simp only [websockets_stripWSHeader, Id.run_pure, List.forIn_pure_yield_eq_foldl, pure_bind, ite_yield]
  unfold Hdr.putAll
  congr; funext a p
  unfold Hdr.putStep
  cases websockets_stripHeaderNames.contains p.1 <;> rfl

end InvProxy.StripWS
