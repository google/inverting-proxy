/-
  Proofs/Route (C18): the regenerated loop is `mostSpecific`; `mostSpecific` picks the first longest
  matching pair (`FirstMax`, the index-free form of `IsBest`); `lookup` by cases.
-/
import InvProxy.Model.Route
import InvProxy.Proofs.Canon
namespace InvProxy.Route
open InvProxy InvProxy.Gen

/-- Both sides become nested `foldl`s over `bs` and the prefixes; what is left to compare is one iteration
    of the inner loop with `stepMS`, whatever `if`s (nested, or guards with `continue`) goextract wrote. -/
theorem gen_eq_mostSpecific (path : Bytes) (bs : List Backend) :
    store_mostSpecificMatchingBackend path bs = mostSpecific path bs := by
  simp only [store_mostSpecificMatchingBackend, List.forIn_pure_yield_eq_foldl, pure_bind, ite_yield,
    Prod.eta, mostSpecific, pairs, List.foldl_flatMap, List.foldl_map]
  refine congrArg (fun r : Bytes × Bytes => if r.1 == [] then none else some r.1)
    (congrArg (List.foldl · ([], []) bs) (funext fun acc => funext fun b =>
      congrArg (List.foldl · acc b.PathPrefixes) (funext fun acc => funext fun p => ?_)))
  first
  | rfl
  | (unfold stepMS; repeat' split
     all_goals first | rfl | simp_all)

/-- the inner-loop step once non-matching pairs have been filtered out -/
def stepM (acc bp : Bytes × Bytes) : Bytes × Bytes :=
  if acc.1 == [] || bp.2.length > acc.2.length then bp else acc

theorem foldl_stepMS_eq (path : Bytes) (l : List (Bytes × Bytes)) (acc : Bytes × Bytes) :
    l.foldl (stepMS path) acc = (l.filter (fun bp => Go.hasPrefix path bp.2)).foldl stepM acc := by
  induction l generalizing acc with
  | nil => rfl
  | cons x l ih =>
    by_cases h : Go.hasPrefix path x.2 = true
    · simp only [List.foldl_cons, List.filter_cons, h, if_true, stepMS, stepM, ih]
    · simp only [List.foldl_cons, List.filter_cons, h, stepMS, ih]
      simp

/-- `r` is the first among the entries of `l` with the longest prefix -/
def FirstMax (l : List (Bytes × Bytes)) (r : Bytes × Bytes) : Prop :=
  ∃ pre post, l = pre ++ r :: post ∧ (∀ y ∈ pre, y.2.length < r.2.length) ∧ ∀ y ∈ post, y.2.length ≤ r.2.length

theorem FirstMax.mem {l r} (h : FirstMax l r) : r ∈ l := by
  obtain ⟨pre, post, rfl, _⟩ := h; simp

theorem FirstMax.le {l r} (h : FirstMax l r) {y} (hy : y ∈ l) : y.2.length ≤ r.2.length := by
  obtain ⟨pre, post, rfl, h1, h2⟩ := h
  rcases List.mem_append.1 hy with hy | hy
  · exact Nat.le_of_lt (h1 y hy)
  · rcases List.mem_cons.1 hy with rfl | hy
    · exact Nat.le_refl _
    · exact h2 y hy

theorem FirstMax.isBest {ms r} (h : FirstMax ms r) : ∃ i, IsBest ms i ∧ ms[i]? = some r := by
  obtain ⟨pre, post, rfl, h1, h2⟩ := h
  have hr : (pre ++ r :: post)[pre.length]? = some r := by simp
  obtain ⟨hi, hr'⟩ := List.getElem?_eq_some_iff.1 hr
  refine ⟨pre.length, ⟨hi, fun j hj _ => ?_, fun j hj _ hlt => ?_⟩, hr⟩
  · rw [hr']
    exact FirstMax.le ⟨pre, post, rfl, h1, h2⟩ (List.getElem_mem hj)
  · rw [hr', List.getElem_append_left hlt]
    exact h1 _ (List.getElem_mem hlt)

theorem FirstMax.snoc {l r} (h : FirstMax l r) (hr : r.1 ≠ []) (x : Bytes × Bytes) :
    FirstMax (l ++ [x]) (stepM r x) := by
  have : stepM r x = if x.2.length > r.2.length then x else r := by simp [stepM, hr]
  rw [this]
  split
  · next hlt => exact ⟨l, [], rfl, fun y hy => Nat.lt_of_le_of_lt (h.le hy) hlt, nofun⟩
  · next hle =>
    obtain ⟨pre, post, rfl, h1, h2⟩ := h
    refine ⟨pre, post ++ [x], by simp, h1, fun y hy => ?_⟩
    rcases List.mem_append.1 hy with hy | hy
    · exact h2 y hy
    · rw [List.mem_singleton.1 hy]; exact Nat.le_of_not_lt hle

/-- `done`: the entries already visited, carried along so that one forward induction does -/
theorem foldl_stepM (ms done : List (Bytes × Bytes)) (hid : ∀ y ∈ done ++ ms, y.1 ≠ [])
    (acc : Bytes × Bytes) (h : FirstMax done acc) : FirstMax (done ++ ms) (ms.foldl stepM acc) := by
  induction ms generalizing done acc with
  | nil => simpa using h
  | cons x ms ih =>
    rw [List.append_cons] at hid ⊢
    exact ih _ hid _ (h.snoc (hid _ (by simp [h.mem])) x)

theorem mem_pairs {bs : List Backend} {bp : Bytes × Bytes} :
    bp ∈ pairs bs ↔ ∃ b ∈ bs, b.BackendID = bp.1 ∧ bp.2 ∈ b.PathPrefixes := by
  simp only [pairs, List.mem_flatMap, List.mem_map]
  constructor
  · rintro ⟨b, hb, p, hp, rfl⟩; exact ⟨b, hb, rfl, hp⟩
  · rintro ⟨b, hb, h1, h2⟩; exact ⟨b, hb, bp.2, h2, by rw [h1]⟩

theorem mem_matching {path : Bytes} {bs : List Backend} {bp : Bytes × Bytes} :
    bp ∈ matching path bs ↔
      ∃ b ∈ bs, b.BackendID = bp.1 ∧ bp.2 ∈ b.PathPrefixes ∧ bp.2 <+: path := by
  simp only [matching, List.mem_filter, mem_pairs, Go.hasPrefix, List.isPrefixOf_iff_prefix]
  constructor
  · rintro ⟨⟨b, hb, h1, h2⟩, h3⟩; exact ⟨b, hb, h1, h2, h3⟩
  · rintro ⟨b, hb, h1, h2, h3⟩; exact ⟨⟨b, hb, h1, h2⟩, h3⟩

/-- the empty ID is the loop's "nothing yet", hence `hid` -/
theorem mostSpecific_cases (path : Bytes) (bs : List Backend) (hid : ∀ b ∈ bs, b.BackendID ≠ []) :
    (matching path bs = [] ∧ mostSpecific path bs = none) ∨
    ∃ r, FirstMax (matching path bs) r ∧ mostSpecific path bs = some r.1 := by
  have hne : ∀ y ∈ matching path bs, y.1 ≠ [] := fun y hy => by
    obtain ⟨b, hb, h1, _⟩ := mem_matching.1 hy
    exact h1 ▸ hid b hb
  have hms : mostSpecific path bs =
      (if ((matching path bs).foldl stepM ([], [])).1 == [] then none
       else some ((matching path bs).foldl stepM ([], [])).1) := by
    simp only [mostSpecific, matching, foldl_stepMS_eq]; rfl
  rw [hms]
  cases hm : matching path bs with
  | nil => exact Or.inl ⟨rfl, rfl⟩
  | cons x ms =>
    rw [hm] at hne
    have h := foldl_stepM ms [x] hne x ⟨[], [], rfl, nofun, nofun⟩
    exact Or.inr ⟨_, h, if_neg (by rw [beq_iff_eq]; exact hne _ h.mem)⟩

theorem mostSpecific_some {path : Bytes} {bs : List Backend} (hid : ∀ b ∈ bs, b.BackendID ≠ []) {id : Bytes}
    (h : mostSpecific path bs = some id) : ∃ r, FirstMax (matching path bs) r ∧ r.1 = id := by
  rcases mostSpecific_cases path bs hid with ⟨_, h2⟩ | ⟨r, h1, h2⟩
  · rw [h2] at h; cases h
  · exact ⟨r, h1, Option.some.inj (h2 ▸ h)⟩

theorem mostSpecific_ofUser {s : Store} (hid : ∀ b ∈ s.backends, b.BackendID ≠ []) {u path id : Bytes}
    (h : mostSpecific path (ofUser s u) = some id) :
    ∃ b ∈ s.backends, b.BackendID = id ∧ b.EndUser = u := by
  obtain ⟨r, hr, rfl⟩ := mostSpecific_some (fun b hb => hid b (List.mem_filter.1 hb).1) h
  obtain ⟨b, hb, h1, _⟩ := mem_matching.1 hr.mem
  obtain ⟨hb1, hb2⟩ := List.mem_filter.1 hb
  exact ⟨b, hb1, h1, by simpa using hb2⟩

theorem lookup_some {s : Store} {user path : Bytes} {now : Int} {id : Bytes}
    (h : lookup s user path now = some id) :
    (mostSpecific path (ofUser s user) = some id ∨
      mostSpecific path (ofUser s store_sharedBackendUser) = some id) ∧ live s id now = true := by
  unfold lookup at h
  split at h
  · next b hb =>
    split at h
    · next hl => cases h; exact ⟨Or.inl hb, hl⟩
    · cases h
  · unfold lookupShared at h
    split at h
    · next b hb =>
      split at h
      · next hl => cases h; exact ⟨Or.inr hb, hl⟩
      · cases h
    · cases h

theorem lookup_congr {s s' : Store} {user path : Bytes} {now : Int}
    (h1 : ofUser s' user = ofUser s user)
    (h2 : ofUser s' store_sharedBackendUser = ofUser s store_sharedBackendUser)
    (hl : ∀ u id, mostSpecific path (ofUser s u) = some id → live s' id now = live s id now) :
    lookup s' user path now = lookup s user path now := by
  unfold lookup lookupShared
  rw [h1, h2]
  cases hm : mostSpecific path (ofUser s user) with
  | some id => simp only [hl _ id hm]
  | none =>
    cases hm' : mostSpecific path (ofUser s store_sharedBackendUser) with
    | some id => simp only [hl _ id hm']
    | none => rfl

end InvProxy.Route
