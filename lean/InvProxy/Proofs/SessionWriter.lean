import InvProxy.Model.SessionWriter
namespace InvProxy.SessionWriter
open InvProxy InvProxy.Gen

theorem writeHeaderEdits_eq (wrote : Bool) (status : Int) (noSession : Bool) (sc : Bytes) (parsed : Nat) (h : Hdr) :
    sessions_writeHeaderEdits wrote status noSession sc parsed h =
      let k : Bytes := [83,101,116,45,67,111,111,107,105,101]
      if wrote then h
      else if isInterim status then Hdr.Del h k
      else if noSession then Hdr.Add (Hdr.Del h k) k sc
      else Hdr.Del h k := by
  unfold sessions_writeHeaderEdits isInterim
  generalize (decide (status ≥ 100) && decide (status ≤ 199) && status != 101) = b
  cases wrote
  · cases b
    · cases noSession <;> cases parsed <;> rfl
    · rfl
  · rfl

theorem calls_wrote (noSession : Bool) (sc : Bytes) (parsed : Nat) (l : List (Int × Hdr)) (sent : List (Int × Hdr)) :
    (Writer.mk true sent).calls noSession sc parsed l = ⟨true, sent⟩ := by
  induction l with
  | nil => rfl
  | cons p rest ih => exact ih

theorem calls_interim_final (noSession : Bool) (sc : Bytes) (parsed : Nat) (pre : List (Int × Hdr)) (f : Int) (h : Hdr)
    (post : List (Int × Hdr)) (hpre : ∀ p ∈ pre, isInterim p.1 = true) (hf : isInterim f = false) (sent : List (Int × Hdr)) :
    (Writer.mk false sent).calls noSession sc parsed (pre ++ (f, h) :: post) =
      ⟨true, sent ++ (pre ++ [(f, h)]).map fun p => (p.1, sessions_writeHeaderEdits false p.1 noSession sc parsed p.2)⟩ := by
  induction pre generalizing sent with
  | nil =>
    rw [List.nil_append, Writer.calls, Writer.call, if_neg Bool.false_ne_true, hf]
    exact calls_wrote ..
  | cons p pre ih =>
    rw [List.cons_append, Writer.calls, Writer.call, if_neg Bool.false_ne_true, hpre p (List.mem_cons_self ..)]
    exact (ih (fun q hq => hpre q (List.mem_cons_of_mem _ hq)) _).trans (congrArg _ (List.append_assoc ..))

end InvProxy.SessionWriter
