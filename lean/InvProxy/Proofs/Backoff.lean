/-
  Proofs/Backoff: helper lemmas for C08 — `closedForm`, the floor in `jitter`, the equations of
  `runLoop`.
-/
import InvProxy.Model.Backoff
namespace InvProxy.Backoff
open InvProxy InvProxy.Gen

theorem closedForm_le (n : Nat) : closedForm n ≤ 3000000000 := by
  unfold closedForm
  split
  · next h => exact Nat.le_trans (Nat.mul_le_mul_right _ (Nat.pow_le_pow_right (by decide) h)) (by decide)
  · exact Nat.le_refl _

theorem closedForm_mono {m n : Nat} (h : m ≤ n) : closedForm m ≤ closedForm n := by
  by_cases hn : n ≤ 11
  · rw [closedForm, closedForm, if_pos (Nat.le_trans h hn), if_pos hn]
    exact Nat.mul_le_mul_right _ (Nat.pow_le_pow_right (by decide) h)
  · rw [closedForm.eq_def n, if_neg hn]; exact closedForm_le m

theorem closedForm_succ {n : Nat} (h : n < 11) : closedForm (n + 1) = 2 * closedForm n := by
  rw [closedForm, closedForm, if_pos (Nat.succ_le_of_lt h), if_pos (Nat.le_of_lt h), Nat.pow_succ, Nat.mul_comm _ 2,
    Nat.mul_assoc]

/-- The floor taken in two steps: first the draw's share `⌊2·pn·d·rn/rd⌋` of the spread, then
    the division by `pd`. -/
theorem jitter_eq (d pn pd rn rd : Nat) (hrd : 0 < rd) :
    jitter d pn pd rn rd = ((pd - pn) * d + 2 * pn * d * rn / rd) / pd := by
  unfold jitter
  rw [Nat.mul_comm pd rd, ← Nat.div_div_eq_div_mul, Nat.mul_add, ← Nat.mul_assoc, ← Nat.mul_assoc,
    Nat.mul_comm d (pd - pn), Nat.mul_comm d (2 * pn), Nat.add_comm,
    Nat.add_mul_div_right _ _ hrd, Nat.add_comm]

theorem jitter_bounds (d pn pd rn rd : Nat) (hr : rn < rd) (hpd : 0 < pd) :
    (pd - pn) * d < pd * (jitter d pn pd rn rd + 1) ∧
    pd * jitter d pn pd rn rd ≤ (pd - pn) * d + 2 * pn * d := by
  have he : 2 * pn * d * rn / rd ≤ 2 * pn * d :=
    Nat.div_le_of_le_mul (by rw [Nat.mul_comm rd]; exact Nat.mul_le_mul_left _ (Nat.le_of_lt hr))
  rw [jitter_eq _ _ _ _ _ (Nat.zero_lt_of_lt hr)]
  exact ⟨Nat.lt_of_le_of_lt (Nat.le_add_right ..) (Nat.lt_mul_div_succ _ hpd),
    Nat.le_trans (Nat.mul_div_le ..) (Nat.add_le_add_left he _)⟩

theorem runLoop_fail (rc : BitVec 64) (fs : List Bool) :
    runLoop rc (true :: fs) = some rc :: runLoop (rc + 1#64) fs := rfl

theorem runLoop_ok (rc : BitVec 64) (fs : List Bool) :
    runLoop rc (false :: fs) = none :: runLoop 0#64 fs := rfl

/-- A streak of `j+1` failures ends by sleeping with `rc + j`, the counter wrapping like the
    code's `uint`. -/
theorem runLoop_failures (rc : BitVec 64) (j : Nat) :
    (runLoop rc (List.replicate (j + 1) true)).getLast? = some (some (rc + BitVec.ofNat 64 j)) := by
  induction j generalizing rc with
  | zero => simp [runLoop_fail, runLoop]
  | succ j ih =>
    rw [List.replicate_succ, runLoop_fail, List.replicate_succ, runLoop_fail, List.getLast?_cons_cons,
      ← runLoop_fail, ← List.replicate_succ, ih, BitVec.add_assoc, Nat.add_comm j 1, BitVec.ofNat_add]

theorem runLoop_append (rc : BitVec 64) (a b : List Bool) :
    ∃ rc', runLoop rc (a ++ b) = runLoop rc a ++ runLoop rc' b := by
  induction a generalizing rc with
  | nil => exact ⟨rc, rfl⟩
  | cons f a ih =>
    cases f
    · obtain ⟨rc', h⟩ := ih 0#64; exact ⟨rc', by rw [List.cons_append, runLoop_ok, h]; rfl⟩
    · obtain ⟨rc', h⟩ := ih (rc + 1#64); exact ⟨rc', by rw [List.cons_append, runLoop_fail, h]; rfl⟩

end InvProxy.Backoff
