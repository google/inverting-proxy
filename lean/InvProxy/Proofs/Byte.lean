/-
  Proofs/Byte: a statement about every byte (or every byte below a bound: the 16 nibbles, the 64
  sextets) is checked by running it.  Meant for facts that are tables by nature — an alphabet,
  how a byte splits into bit fields; `decide +kernel` at the call keeps the elaborator from
  evaluating the table a first time before the kernel does.
-/
namespace InvProxy.Byte

theorem forall_lt {N : Nat} {P : UInt8 → Prop} [DecidablePred P]
    (h : ((List.range N).all fun n => decide (P (.ofNat n))) = true) (b : UInt8) (hb : b.toNat < N) :
    P b := by
  have := of_decide_eq_true (List.all_eq_true.1 h b.toNat (List.mem_range.2 hb))
  rwa [UInt8.ofNat_toNat] at this

theorem forall_byte {P : UInt8 → Prop} [DecidablePred P]
    (h : ((List.range 256).all fun n => decide (P (.ofNat n))) = true) (b : UInt8) : P b :=
  forall_lt h b b.toNat_lt

end InvProxy.Byte
