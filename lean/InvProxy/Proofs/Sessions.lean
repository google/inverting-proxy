/-
  Proofs/Sessions: helper lemmas for C10.  `find` is `List.find?` on the key; `getOrCreate` and `setJar`
  are characterised by what they do to `keys` and to `find`; a step gets or creates the jar of the
  session it touches and feeds it what the reference jar is fed (`step_eq`).  The LRU correspondence and
  the per-session jar refinement are read off these.
-/
import InvProxy.Model.Sessions
import InvProxy.Model.Dedup
import InvProxy.Proofs.Lru
import InvProxy.Proofs.Dedup
namespace InvProxy.Sessions
open InvProxy

variable {J U SC C : Type}

theorem find_eq_find? (es : List (Sid × J)) (s : Sid) : find es s = (es.find? (·.1 = s)).map (·.2) := by
  induction es with
  | nil => rfl
  | cons p t ih =>
    rw [find, List.find?_cons]
    by_cases hk : p.1 = s
    · rw [if_pos hk, decide_eq_true hk]; rfl
    · rw [if_neg hk, decide_eq_false hk]; exact ih

theorem find_isSome_iff (es : List (Sid × J)) (s : Sid) : (find es s).isSome ↔ s ∈ es.map (·.1) := by
  simp only [find_eq_find?, Option.isSome_map, List.find?_isSome, List.mem_map, decide_eq_true_eq]

theorem find_eq_none_of_not_mem {es : List (Sid × J)} {s : Sid} (h : s ∉ es.map (·.1)) : find es s = none := by
  rw [← Option.not_isSome_iff_eq_none, find_isSome_iff]; exact h

theorem find_append (a b : List (Sid × J)) (s : Sid) : find (a ++ b) s = (find a s).or (find b s) := by
  simp only [find_eq_find?, List.find?_append, Option.map_or]

theorem find_filter (es : List (Sid × J)) (q : Sid × J → Bool) (s : Sid) (hq : ∀ p, p.1 = s → q p = true) :
    find (es.filter q) s = find es s := by
  rw [find_eq_find?, find_eq_find?, List.find?_filter]
  congr 2
  funext p
  by_cases hp : p.1 = s
  · simp [hp, hq p hp]
  · simp [hp]

theorem find_map (es : List (Sid × J)) (f : Sid → J → J) (s : Sid) :
    find (es.map fun p => (p.1, f p.1 p.2)) s = (find es s).map (f s) := by
  induction es with
  | nil => rfl
  | cons p t ih =>
    rw [List.map_cons, find, find]
    split
    · next h => rw [← h]; rfl
    · exact ih

theorem find_trim (cap : Nat) (es : List (Sid × J)) (s : Sid) (h : s ∈ (trim cap es).map (·.1)) :
    find (trim cap es) s = find es s := by
  unfold trim at h ⊢
  split
  · rfl
  · next hc =>
    rw [if_neg hc] at h
    have := find_append (es.take cap) (es.drop cap) s
    rw [List.take_append_drop] at this
    rw [this, Option.or_of_isSome ((find_isSome_iff _ _).2 h)]

/-- generic in the key type, so that `erase` is the one of `Lru.touch` -/
theorem map_filter_ne {K : Type} [DecidableEq K] (es : List (K × J)) (s : K) (hn : (es.map (·.1)).Nodup) :
    (es.filter (fun p => p.1 ≠ s)).map (·.1) = (es.map (·.1)).erase s := by
  rw [hn.erase_eq_filter, List.filter_map]
  congr 2
  funext p
  simp only [Function.comp, bne, Bool.beq_eq_decide_eq, decide_not]

theorem setJar_eq (c : Cache J) (s : Sid) (j : J) :
    setJar c s j = { c with entries := c.entries.map fun p => (p.1, if p.1 = s then j else p.2) } := by
  rw [setJar]
  congr 2
  funext p
  split <;> rfl

theorem keys_setJar (c : Cache J) (s : Sid) (j : J) : keys (setJar c s j) = keys c := by
  rw [setJar_eq, keys, List.map_map]; rfl

theorem cap_setJar (c : Cache J) (s : Sid) (j : J) : (setJar c s j).cap = c.cap := rfl

theorem find_setJar (c : Cache J) (s s' : Sid) (j : J) :
    find (setJar c s j).entries s' = (find c.entries s').map fun x => if s' = s then j else x := by
  rw [setJar_eq]; exact find_map c.entries (fun k x => if k = s then j else x) s'

theorem getOrCreate_snd (ops : JarOps J U SC C) (c : Cache J) (s : Sid) :
    (getOrCreate ops c s).2 = (find c.entries s).getD ops.empty := rfl

theorem getOrCreate_cap (ops : JarOps J U SC C) (c : Cache J) (s : Sid) :
    (getOrCreate ops c s).1.cap = c.cap := rfl

theorem find_getOrCreate (ops : JarOps J U SC C) (c : Cache J) (s s' : Sid)
    (hin : s' ∈ keys (getOrCreate ops c s).1) :
    find (getOrCreate ops c s).1.entries s' = if s' = s then some (getOrCreate ops c s).2 else find c.entries s' := by
  rw [getOrCreate, find_trim _ _ _ hin, find]
  by_cases h : s = s'
  · rw [if_pos h, if_pos h.symm]
  · rw [if_neg h, if_neg (Ne.symm h)]
    exact find_filter _ _ _ fun p hp => decide_eq_true (hp ▸ Ne.symm h)

theorem keys_getOrCreate (ops : JarOps J U SC C) (c : Cache J) (s : Sid) (hn : (keys c).Nodup) :
    keys (getOrCreate ops c s).1 = Lru.touch c.cap (keys c) s := by
  simp only [getOrCreate, keys, trim, Lru.touch]
  split
  · rw [List.map_cons, remove, map_filter_ne _ _ hn]
  · rw [List.map_take, List.map_cons, remove, map_filter_ne _ _ hn]

theorem setJar_getOrCreate (ops : JarOps J U SC C) (c : Cache J) (s : Sid) :
    setJar (getOrCreate ops c s).1 s (getOrCreate ops c s).2 = (getOrCreate ops c s).1 := by
  rw [setJar_eq]
  refine congrArg (Cache.mk c.cap) ((List.map_congr_left fun p hp => ?_).trans (List.map_id _))
  have hp : p ∈ (s, (getOrCreate ops c s).2) :: remove c.entries s := by
    unfold getOrCreate trim at hp
    split at hp
    · exact hp
    · exact List.mem_of_mem_take hp
  rcases List.mem_cons.mp hp with rfl | hp
  · exact congrArg (Prod.mk s) (if_pos rfl)
  · exact congrArg (Prod.mk p.1) (if_neg (of_decide_eq_true (List.mem_filter.mp hp).2))

theorem request_fst (ops : JarOps J U SC C) (cfg : Cfg) (c : Cache J) (url : U) (cookies : List (Bytes × Bytes)) :
    (request ops cfg c url cookies).1 =
      if sessionOf cfg cookies = [] then c else (getOrCreate ops c (sessionOf cfg cookies)).1 := by
  simp only [request]
  split <;> rfl

theorem response_fst (ops : JarOps J U SC C) (c : Cache J) (s fresh : Sid) (url : U) (sc : List SC) :
    (response ops c s fresh url sc).1 =
      if sc = [] then (getOrCreate ops c (if s = [] then fresh else s)).1
      else setJar (getOrCreate ops c (if s = [] then fresh else s)).1 (if s = [] then fresh else s)
        (ops.set (getOrCreate ops c (if s = [] then fresh else s)).2 url sc) := rfl

def refStep (ops : JarOps J U SC C) (s : Sid) (j : J) : Op U SC → J
  | .resp s' fresh url sc => if (if s' = [] then fresh else s') = s ∧ sc ≠ [] then ops.set j url sc else j
  | .req _ _ => j

/-- a step gets or creates the jar of the session it touches and feeds it what the reference jar is fed -/
theorem step_eq (ops : JarOps J U SC C) (cfg : Cfg) (c : Cache J) (op : Op U SC) :
    step ops cfg c op =
      match Op.touched cfg op with
      | none => c
      | some t => setJar (getOrCreate ops c t).1 t (refStep ops t (getOrCreate ops c t).2 op) := by
  cases op with
  | req url cookies =>
    rw [step, request_fst, Op.touched]
    split
    · rfl
    · exact (setJar_getOrCreate ..).symm
  | resp s fresh url sc =>
    by_cases hsc : sc = []
    · simp only [step, response_fst, Op.touched, refStep, hsc, if_true, ne_eq, not_true_eq_false, and_false, if_false]
      exact (setJar_getOrCreate ..).symm
    · simp only [step, response_fst, Op.touched, refStep, hsc, if_false, ne_eq, not_false_eq_true, and_self, if_true]

theorem cap_step (ops : JarOps J U SC C) (cfg : Cfg) (c : Cache J) (op : Op U SC) :
    (step ops cfg c op).cap = c.cap := by
  rw [step_eq]
  cases Op.touched cfg op <;> rfl

theorem keys_step (ops : JarOps J U SC C) (cfg : Cfg) (c : Cache J) (op : Op U SC) (hn : (keys c).Nodup) :
    keys (step ops cfg c op) =
      match Op.touched cfg op with
      | none => keys c
      | some t => Lru.touch c.cap (keys c) t := by
  rw [step_eq]
  cases Op.touched cfg op with
  | none => rfl
  | some t => exact (keys_setJar ..).trans (keys_getOrCreate ops c t hn)

theorem find_step (ops : JarOps J U SC C) (cfg : Cfg) (c : Cache J) (op : Op U SC) (s : Sid)
    (hin : s ∈ keys (step ops cfg c op)) :
    find (step ops cfg c op).entries s =
      if Op.touched cfg op = some s then some (refStep ops s ((find c.entries s).getD ops.empty) op)
      else find c.entries s := by
  rw [step_eq] at hin ⊢
  generalize Op.touched cfg op = o at hin ⊢
  cases o with
  | none => exact (if_neg nofun).symm
  | some t =>
    rw [keys_setJar] at hin
    rw [find_setJar, find_getOrCreate ops c t s hin]
    by_cases h : s = t
    · subst h; rw [if_pos rfl, if_pos rfl, Option.map_some, if_pos rfl]; rfl
    · rw [if_neg h, if_neg (fun e => h (Option.some.inj e).symm)]
      cases find c.entries s with
      | none => rfl
      | some j => exact congrArg some (if_neg h)

theorem cap_keys_run (ops : JarOps J U SC C) (cfg : Cfg) (c : Cache J) (hn : (keys c).Nodup) (h : List (Op U SC)) :
    (run ops cfg c h).cap = c.cap ∧ keys (run ops cfg c h) = (touches cfg h).foldl (Lru.touch c.cap) (keys c) := by
  induction h generalizing c with
  | nil => exact ⟨rfl, rfl⟩
  | cons op t ih =>
    have hk := keys_step ops cfg c op hn
    have hn' : (keys (step ops cfg c op)).Nodup := by
      rw [hk]; cases Op.touched cfg op
      · exact hn
      · exact Lru.nodup_touch _ _ _ hn
    obtain ⟨h1, h2⟩ := ih (step ops cfg c op) hn'
    refine ⟨h1.trans (cap_step ..), h2.trans ?_⟩
    rw [cap_step, hk]
    simp only [touches, List.filterMap_cons]
    cases Op.touched cfg op <;> rfl

theorem keys_run (ops : JarOps J U SC C) (cfg : Cfg) (cap : Nat) (h : List (Op U SC)) :
    keys (run ops cfg { cap := cap, entries := [] } h) = Lru.after cap (touches cfg h) :=
  (cap_keys_run ops cfg ⟨cap, []⟩ List.nodup_nil h).2

theorem run_append_singleton (ops : JarOps J U SC C) (cfg : Cfg) (c : Cache J) (p : List (Op U SC)) (op : Op U SC) :
    run ops cfg c (p ++ [op]) = step ops cfg (run ops cfg c p) op := by
  simp [run, List.foldl_append]

theorem touches_append (cfg : Cfg) (p q : List (Op U SC)) : touches cfg (p ++ q) = touches cfg p ++ touches cfg q := by
  simp [touches]

theorem refJar_append_singleton (ops : JarOps J U SC C) (cfg : Cfg) (s : Sid) (p : List (Op U SC)) (op : Op U SC) :
    refJar ops cfg s (p ++ [op]) = refStep ops s (refJar ops cfg s p) op := by
  simp only [refJar, List.foldl_append, List.foldl_cons, List.foldl_nil]
  cases op <;> rfl

theorem refStep_ne (ops : JarOps J U SC C) (cfg : Cfg) (s : Sid) (j : J) (op : Op U SC)
    (h : Op.touched cfg op ≠ some s) : refStep ops s j op = j := by
  cases op with
  | req url cookies => rfl
  | resp s' fresh url sc => exact if_neg fun hh => h (congrArg some hh.1)

theorem refJar_of_not_mem (ops : JarOps J U SC C) (cfg : Cfg) (s : Sid) (p : List (Op U SC))
    (h : s ∉ touches cfg p) : refJar ops cfg s p = ops.empty := by
  induction p using Lru.rev_induction with
  | nil => rfl
  | append_singleton p op ih =>
    rw [touches_append, List.mem_append, not_or] at h
    rw [refJar_append_singleton, ih h.1]
    exact refStep_ne ops cfg s _ op fun e => h.2 (by simp [touches, e])

theorem find_run_eq_refJar (ops : JarOps J U SC C) (cfg : Cfg) (cap : Nat) (hc : 0 < cap) (p : List (Op U SC))
    (hw : Dedup.WindowOK cap (touches cfg p)) (s : Sid)
    (hin : s ∈ keys (run ops cfg { cap := cap, entries := [] } p)) :
    find (run ops cfg { cap := cap, entries := [] } p).entries s = some (refJar ops cfg s p) := by
  induction p using Lru.rev_induction generalizing s with
  | nil => cases hin
  | append_singleton p op ih =>
    rw [touches_append] at hw
    have ih' := ih hw.prefix
    rw [run_append_singleton] at hin ⊢
    rw [refJar_append_singleton, find_step _ _ _ _ _ hin]
    split
    · next hst =>
      -- touched now: cached before iff touched before (the window), and then by induction
      have hw' : Dedup.WindowOK cap (touches cfg p ++ [s]) := by simpa [touches, hst] using hw
      have hk := keys_run ops cfg cap p
      congr 2
      by_cases hm : s ∈ touches cfg p
      · rw [ih' s (hk ▸ Dedup.mem_after_of_window hc hw' hm)]; rfl
      · rw [find_eq_none_of_not_mem fun (h : s ∈ keys _) => hm (Lru.mem_of_mem_after (hk ▸ h)),
          refJar_of_not_mem ops cfg s p hm]; rfl
    · next hst =>
      -- not touched: cached before, since it is cached now
      rw [refStep_ne ops cfg s _ op hst]
      have := (find_isSome_iff _ _).2 hin
      rw [find_step _ _ _ _ _ hin, if_neg hst] at this
      exact ih' s ((find_isSome_iff _ _).1 this)

end InvProxy.Sessions
