/-
  Proofs/Blob: helper lemmas for C19 (blob storage part).
-/
import InvProxy.Model.Blob
namespace InvProxy.Blob
open InvProxy InvProxy.Gen

/-- `store_partBounds` over a symbolic limit `L`.  The constant is replaced by a genuine
    variable before `Id.run` is unfolded, so that the kernel never evaluates `i * 1000000`
    (`generalize` at the call instead of this lemma is a thousand times dearer). -/
theorem partBounds_gen (L : Nat) (hL : store_fieldByteLimit = L) (i n : Nat) :
    store_partBounds i n = (i * L, min ((i + 1) * L) n) := by
  unfold store_partBounds
  rw [hL]
  simp only [Id.run, pure]
  by_cases h : (i + 1) * L > n
  · rw [if_pos (decide_eq_true h), Nat.min_eq_right (Nat.le_of_lt h)]
  · rw [if_neg (by simpa using h), Nat.min_eq_left (Nat.not_lt.1 h)]

theorem flatten_chunks {α} (l : List α) (L k : Nat) :
    ((List.range k).map fun i => (l.drop (i * L)).take L).flatten = l.take (k * L) := by
  induction k with
  | zero => simp
  | succ k ih => simp [List.range_succ, ih, Nat.succ_mul, List.take_add]

theorem writeParts_eq (rest : Bytes) :
    writeParts rest = (List.range (rest.length / store_fieldByteLimit + 1)).map fun i =>
      (rest.drop (i * store_fieldByteLimit)).take store_fieldByteLimit :=
  List.map_congr_left fun i _ => by
    -- clamping the end of a part to the length changes nothing
    rw [partBounds_gen _ rfl, slice, List.take_eq_take_iff, List.length_drop, ← Nat.sub_min_sub_right,
      Nat.succ_mul, Nat.add_sub_cancel_left, Nat.min_assoc, Nat.min_self]

theorem writeParts_flatten (rest : Bytes) : (writeParts rest).flatten = rest := by
  rw [writeParts_eq, flatten_chunks]
  exact List.take_of_length_le (Nat.le_of_lt (Nat.mul_comm .. ▸ Nat.lt_mul_div_succ _ (by decide)))

theorem writeParts_sizes (rest : Bytes) : ∀ p ∈ writeParts rest, p.length ≤ store_fieldByteLimit := by
  rw [writeParts_eq]
  simp only [List.mem_map, forall_exists_index, and_imp, forall_apply_eq_imp_iff₂, List.length_take]
  exact fun _ _ => Nat.min_le_left ..

end InvProxy.Blob
