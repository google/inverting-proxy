/-
  Proofs/BridgeLife (C16): invariant and progress measure of the `halfClose` variant.
  The bridge is two mirror-image lanes (A→B, B→A) coupled only through the two teardown flags.
  `step` is opened once, in `step_lanes`, into what it does to each lane; the invariant and the
  measure are then facts about one lane, used for both.
-/
import InvProxy.Model.BridgeLife
import InvProxy.Proofs.Run
namespace InvProxy.BridgeLife
open InvProxy

/-- inductive invariant of the `halfClose` variant -/
structure Inv (s : St) : Prop where
  consAB : s.bGot + s.ab1.q + s.ab2.q + s.ab3.q = s.aSent
  consBA : s.aGot + s.ba1.q + s.ba2.q + s.ba3.q = s.bSent
  ab1fin : s.ab1.fin = s.aClosed
  ba1fin : s.ba1.fin = s.bClosed
  f1e : s.f1 = false → s.ab1.fin = true ∧ s.ab1.q = 0 ∧ s.ab2.fin = true
  ab2fin : s.ab2.fin = true → s.f1 = false
  h1e : s.h1 = false → s.ab2.fin = true ∧ s.ab2.q = 0 ∧ s.ab3.fin = true
  ab3fin : s.ab3.fin = true → s.h1 = false
  beof : s.bEOF = true → s.ab3.fin = true ∧ s.ab3.q = 0
  h2e : s.h2 = false → s.ba1.fin = true ∧ s.ba1.q = 0 ∧ s.ba2.fin = true
  ba2fin : s.ba2.fin = true → s.h2 = false
  f2e : s.f2 = false → s.ba2.fin = true ∧ s.ba2.q = 0 ∧ s.ba3.fin = true
  ba3fin : s.ba3.fin = true → s.f2 = false
  aeof : s.aEOF = true → s.ba3.fin = true ∧ s.ba3.q = 0
  fD : s.fDown = true → s.f1 = false ∧ s.f2 = false
  hD : s.hDown = true → s.h1 = false ∧ s.h2 = false

/-- one direction: sender —hop1→ loop1 —hop2→ loop2 —hop3→ receiver; `down1` / `down2` say
    that the side running `loop1` / `loop2` has torn down -/
structure Lane where
  hop1 : Hop
  hop2 : Hop
  hop3 : Hop
  loop1 : Bool
  loop2 : Bool
  down1 : Bool
  down2 : Bool
  eof : Bool
  closed : Bool
  sent : Nat
  got : Nat

def St.ab (s : St) : Lane := ⟨s.ab1, s.ab2, s.ab3, s.f1, s.h1, s.fDown, s.hDown, s.bEOF, s.aClosed, s.aSent, s.bGot⟩
def St.ba (s : St) : Lane := ⟨s.ba1, s.ba2, s.ba3, s.h2, s.f2, s.hDown, s.fDown, s.aEOF, s.bClosed, s.bSent, s.aGot⟩

namespace Lane

inductive Op where
  | idle | send | close | copy1 | stop1 | copy2 | stop2 | recv | seeEOF | tear1 | tear2

def apply (l : Lane) : Op → Lane
  | .idle => l
  | .send => { l with sent := l.sent + 1, hop1 := { l.hop1 with q := l.hop1.q + 1 } }
  | .close => { l with closed := true, hop1 := { l.hop1 with fin := true } }
  | .copy1 =>
    if l.down2 then { l with hop1 := { l.hop1 with q := l.hop1.q - 1 }, loop1 := false }
    else { l with hop1 := { l.hop1 with q := l.hop1.q - 1 }, hop2 := { l.hop2 with q := l.hop2.q + 1 } }
  | .stop1 => { l with loop1 := false, hop2 := { l.hop2 with fin := true } }
  | .copy2 => { l with hop2 := { l.hop2 with q := l.hop2.q - 1 }, hop3 := { l.hop3 with q := l.hop3.q + 1 } }
  | .stop2 => { l with loop2 := false, hop3 := { l.hop3 with fin := true } }
  | .recv => { l with hop3 := { l.hop3 with q := l.hop3.q - 1 }, got := l.got + 1 }
  | .seeEOF => { l with eof := true }
  | .tear1 => { l with down1 := true, hop2 := { l.hop2 with fin := true } }
  | .tear2 => { l with down2 := true, hop3 := { l.hop3 with fin := true } }

/-- the part of an action's guard that speaks of the lane and that the proofs use -/
def Op.guard (l : Lane) : Op → Prop
  | .send => l.closed = false
  | .copy1 => l.loop1 = true ∧ l.hop1.q > 0
  | .stop1 => l.loop1 = true ∧ ended l.hop1 l.down1 = true
  | .copy2 => l.loop2 = true ∧ l.hop2.q > 0
  | .stop2 => l.loop2 = true ∧ ended l.hop2 l.down2 = true
  | .recv => l.hop3.q > 0
  | .seeEOF => l.eof = false ∧ l.hop3.q = 0 ∧ l.hop3.fin = true
  | .tear1 => l.loop1 = false ∧ l.down1 = false
  | .tear2 => l.loop2 = false
  | _ => True

end Lane

/-- (what the action does to lane A→B, to lane B→A) -/
def Act.ops : Act → Lane.Op × Lane.Op
  | .aSend => (.send, .idle) | .bSend => (.idle, .send)
  | .aClose => (.close, .idle) | .bClose => (.idle, .close)
  | .f1Copy => (.copy1, .idle) | .h2Copy => (.idle, .copy1)
  | .f1End => (.stop1, .idle) | .h2End => (.idle, .stop1)
  | .h1Copy => (.copy2, .idle) | .f2Copy => (.idle, .copy2)
  | .h1End => (.stop2, .idle) | .f2End => (.idle, .stop2)
  | .bRecv => (.recv, .idle) | .aRecv => (.idle, .recv)
  | .bSeeEOF => (.seeEOF, .idle) | .aSeeEOF => (.idle, .seeEOF)
  | .fTear => (.tear1, .tear2) | .hTear => (.tear2, .tear1)

theorem step_lanes {s : St} {a : Act} {s' : St} (h : step .halfClose s a = some s') :
    a.ops.1.guard s.ab ∧ s'.ab = s.ab.apply a.ops.1 ∧ a.ops.2.guard s.ba ∧ s'.ba = s.ba.apply a.ops.2 := by
  cases a <;>
    simp only [step, Run.ite_eq_some, reduceCtorEq, and_false, or_false, Option.some.injEq, Bool.and_eq_true,
      Bool.not_eq_true', Bool.not_eq_true, decide_eq_true_eq, beq_iff_eq, ↓reduceIte] at h
  case f1Copy | h2Copy =>
    obtain ⟨hg, ⟨hd, rfl⟩ | ⟨hd, rfl⟩⟩ := h <;>
      refine ⟨?_, ?_, ?_, ?_⟩ <;> simp only [Act.ops, Lane.Op.guard, Lane.apply, St.ab, St.ba, hg, hd, and_self, ↓reduceIte, Bool.false_eq_true]
  all_goals
    obtain ⟨hg, rfl⟩ := h
    refine ⟨?_, rfl, ?_, rfl⟩ <;> simp only [Act.ops, Lane.Op.guard, St.ab, St.ba, hg, and_self]

structure Lane.Inv (l : Lane) : Prop where
  cons : l.got + l.hop1.q + l.hop2.q + l.hop3.q = l.sent
  fin1 : l.hop1.fin = l.closed
  end1 : l.loop1 = false → l.hop1.fin = true ∧ l.hop1.q = 0 ∧ l.hop2.fin = true
  fin2 : l.hop2.fin = true → l.loop1 = false
  end2 : l.loop2 = false → l.hop2.fin = true ∧ l.hop2.q = 0 ∧ l.hop3.fin = true
  fin3 : l.hop3.fin = true → l.loop2 = false
  eof : l.eof = true → l.hop3.fin = true ∧ l.hop3.q = 0
  down1 : l.down1 = true → l.loop1 = false
  down2 : l.down2 = true → l.loop2 = false

theorem inv_iff (s : St) : Inv s ↔ s.ab.Inv ∧ s.ba.Inv :=
  ⟨fun ⟨c1, c2, i1, i2, i3, i4, i5, i6, i7, i8, i9, i10, i11, i12, i13, i14⟩ =>
    ⟨⟨c1, i1, i3, i4, i5, i6, i7, fun h => (i13 h).1, fun h => (i14 h).1⟩,
     ⟨c2, i2, i8, i9, i10, i11, i12, fun h => (i14 h).2, fun h => (i13 h).2⟩⟩,
   fun ⟨⟨c1, i1, i3, i4, i5, i6, i7, d1, d2⟩, ⟨c2, i2, i8, i9, i10, i11, i12, e1, e2⟩⟩ =>
    ⟨c1, c2, i1, i2, i3, i4, i5, i6, i7, i8, i9, i10, i11, i12, fun h => ⟨d1 h, e2 h⟩, fun h => ⟨d2 h, e1 h⟩⟩⟩

namespace Lane.Inv
variable {l : Lane}

-- A lane finishes from the sender's end: while the sender is open `loop1` runs, while `loop1`
-- runs so does `loop2`, and while `loop2` runs the receiver has not seen end-of-stream.

theorem loop1_of_open (h : l.Inv) (hc : l.closed = false) : l.loop1 = true :=
  Bool.of_not_eq_false fun hl => by simp [← h.fin1, (h.end1 hl).1] at hc

theorem loop2_of_loop1 (h : l.Inv) (h1 : l.loop1 = true) : l.loop2 = true :=
  Bool.of_not_eq_false fun hl => by simp [h.fin2 (h.end2 hl).1] at h1

theorem eof_of_loop2 (h : l.Inv) (h2 : l.loop2 = true) : l.eof = false :=
  Bool.of_not_eq_true fun he => by simp [h.fin3 (h.eof he).1] at h2

theorem down1_of_loop1 (h : l.Inv) (h1 : l.loop1 = true) : l.down1 = false :=
  Bool.of_not_eq_true fun hd => by simp [h.down1 hd] at h1

theorem down2_of_loop2 (h : l.Inv) (h2 : l.loop2 = true) : l.down2 = false :=
  Bool.of_not_eq_true fun hd => by simp [h.down2 hd] at h2

/-- In each case `{ h with .. }` names the fields of the invariant that the operation touches;
    the others hold as they did, by unfolding the update. -/
theorem apply (h : l.Inv) (o : Op) (hg : o.guard l) : (l.apply o).Inv := by
  cases o <;> dsimp only [Lane.apply, Op.guard] at hg ⊢
  case idle => exact h
  case send => exact
    { h with
      cons := by have := h.cons; dsimp only; omega
      end1 := fun hl => by simp [h.loop1_of_open hg] at hl }
  case close => exact
    { h with
      fin1 := rfl
      end1 := fun hl => ⟨rfl, (h.end1 hl).2⟩ }
  case copy1 =>
    -- a copy into a cut websocket would lose the chunk, but the other side is down only when
    -- its loop of this lane has ended, and then this loop has ended before it
    rw [if_neg (Bool.eq_false_iff.1 (h.down2_of_loop2 (h.loop2_of_loop1 hg.1)))]
    exact
    { h with
      cons := by have := h.cons; have := hg.2; dsimp only; omega
      end1 := fun h1 => by simp [hg.1] at h1
      end2 := fun h2 => by simp [h.loop2_of_loop1 hg.1] at h2 }
  case copy2 => exact
    { h with
      cons := by have := h.cons; have := hg.2; dsimp only; omega
      end2 := fun h2 => by simp [hg.1] at h2
      eof := fun he => by simp [h.eof_of_loop2 hg.1] at he }
  case stop1 =>
    obtain ⟨hl, he⟩ := hg
    simp only [ended, h.down1_of_loop1 hl, Bool.or_false, Bool.and_eq_true, beq_iff_eq] at he
    exact
    { h with
      end1 := fun _ => ⟨he.2, he.1, rfl⟩
      fin2 := fun _ => rfl
      end2 := fun h2 => ⟨rfl, (h.end2 h2).2⟩
      down1 := fun _ => rfl }
  case stop2 =>
    obtain ⟨hl, he⟩ := hg
    simp only [ended, h.down2_of_loop2 hl, Bool.or_false, Bool.and_eq_true, beq_iff_eq] at he
    exact
    { h with
      end2 := fun _ => ⟨he.2, he.1, rfl⟩
      fin3 := fun _ => rfl
      eof := fun e => ⟨rfl, (h.eof e).2⟩
      down2 := fun _ => rfl }
  case recv => exact
    { h with
      cons := by have := h.cons; have : l.hop3.q > 0 := hg; dsimp only; omega
      eof := fun e => by have := (h.eof e).2; have : l.hop3.q > 0 := hg; omega }
  case seeEOF => exact { h with eof := fun _ => ⟨hg.2.2, hg.2.1⟩ }
  case tear1 => exact
    { h with
      end1 := fun _ => ⟨(h.end1 hg.1).1, (h.end1 hg.1).2.1, rfl⟩
      fin2 := fun _ => hg.1
      end2 := fun h2 => ⟨rfl, (h.end2 h2).2⟩
      down1 := fun _ => hg.1 }
  case tear2 => exact
    { h with
      end2 := fun _ => ⟨(h.end2 hg).1, (h.end2 hg).2.1, rfl⟩
      fin3 := fun _ => hg
      eof := fun e => ⟨rfl, (h.eof e).2⟩
      down2 := fun _ => hg }

theorem can_move (h : l.Inv) (hc : l.closed = true) (hl : l.loop1 = true ∨ l.loop2 = true) :
    (l.loop1 = true ∧ l.down1 = false ∧ (0 < l.hop1.q ∨ ended l.hop1 l.down1 = true)) ∨
      (l.loop2 = true ∧ l.down2 = false ∧ (0 < l.hop2.q ∨ ended l.hop2 l.down2 = true)) := by
  have key : ∀ (p : Hop) (d : Bool), p.fin = true → 0 < p.q ∨ ended p d = true := fun p d hf => by
    cases hq : p.q <;> simp [ended, hq, hf]
  cases h1 : l.loop1 with
  | true => exact .inl ⟨rfl, h.down1_of_loop1 h1, key _ _ (h.fin1.trans hc)⟩
  | false =>
    have h2 := hl.resolve_left (by simp [h1])
    exact .inr ⟨h2, h.down2_of_loop2 h2, key _ _ (h.end1 h1).2.2⟩

theorem drained (h : l.Inv) (h2 : l.loop2 = false) : l.hop3.fin = true ∧ l.got + l.hop3.q = l.sent := by
  obtain ⟨hf2, hq2, hf3⟩ := h.end2 h2
  have := (h.end1 (h.fin2 hf2)).2.1
  have := h.cons
  exact ⟨hf3, by omega⟩

end Lane.Inv

theorem inv_init : Inv init := by
  constructor <;> simp [init]

theorem inv_step {s : St} {a : Act} {s' : St} (hinv : Inv s) (h : step .halfClose s a = some s') : Inv s' := by
  obtain ⟨hab, hba⟩ := (inv_iff s).1 hinv
  obtain ⟨g1, e1, g2, e2⟩ := step_lanes h
  exact (inv_iff s').2 ⟨e1 ▸ hab.apply _ g1, e2 ▸ hba.apply _ g2⟩

theorem run_eq (v : Teardown) (s : St) (as : List Act) : run v s as = as.foldlM (step v) s := by
  fun_induction run v s as <;> simp [*]

theorem inv_run (acts : List Act) (s : St) (h : run .halfClose init acts = some s) : Inv s :=
  Run.foldlM_inv @inv_step inv_init (run_eq .. ▸ h)

namespace Lane

/-- one lane's share of `mu`; a side's teardown flag is counted with the lane whose first loop it runs -/
def mu (l : Lane) : Nat :=
  4 * l.hop1.q + 3 * l.hop2.q + 2 * l.hop3.q + (if l.loop1 then 1 else 0) + (if l.loop2 then 1 else 0) +
    (if l.eof then 0 else 1) + (if l.down1 then 0 else 1)

/-- the operations that lower the lane's measure (`tear2` lowers the other lane's: it is that lane's `tear1`) -/
def Op.lowers : Op → Bool
  | .copy1 | .stop1 | .copy2 | .stop2 | .recv | .seeEOF | .tear1 => true
  | _ => false

theorem mu_apply_lt {l : Lane} {o : Op} (hg : o.guard l) (ho : o.lowers = true) : (l.apply o).mu < l.mu := by
  cases o <;> cases ho <;> dsimp only [Lane.apply, Op.guard] at hg ⊢
  case copy1 => split <;> simp only [mu, hg.1, ↓reduceIte, Bool.false_eq_true, Nat.add_lt_add_iff_right] <;> omega
  case copy2 | recv => simp only [mu, Nat.add_lt_add_iff_right]; omega
  all_goals simp only [mu, hg, ↓reduceIte, Bool.false_eq_true, Nat.add_lt_add_iff_right, Nat.add_zero, Nat.lt_add_one]

end Lane

theorem mu_eq (s : St) : mu s = s.ab.mu + s.ba.mu := by
  dsimp only [mu, Lane.mu, St.ab, St.ba]; simp +arith only

theorem decreases (s s' : St) (a : Act) (hi : a.internal = true) (h : step .halfClose s a = some s') :
    mu s' < mu s := by
  obtain ⟨g1, e1, g2, e2⟩ := step_lanes h
  rw [mu_eq, mu_eq, e1, e2]
  cases a <;> (try cases hi)
  case f1Copy | f1End | h1Copy | h1End | bRecv | bSeeEOF | fTear =>
    exact Nat.add_lt_add_right (Lane.mu_apply_lt g1 rfl) _
  case h2Copy | h2End | f2Copy | f2End | aRecv | aSeeEOF | hTear =>
    exact Nat.add_lt_add_left (Lane.mu_apply_lt g2 rfl) _

theorem no_spurious (s : St) (hinv : Inv s) (ha : s.aClosed = false) (hb : s.bClosed = false) :
    s.f1 ∧ s.f2 ∧ s.h1 ∧ s.h2 ∧ s.fDown = false ∧ s.hDown = false ∧ s.aEOF = false ∧ s.bEOF = false := by
  obtain ⟨hab, hba⟩ := (inv_iff s).1 hinv
  have f1 := hab.loop1_of_open ha
  have h1 := hab.loop2_of_loop1 f1
  have h2 := hba.loop1_of_open hb
  have f2 := hba.loop2_of_loop1 h2
  exact ⟨f1, f2, h1, h2, hab.down1_of_loop1 f1, hab.down2_of_loop2 h1, hba.eof_of_loop2 f2, hab.eof_of_loop2 h1⟩

theorem mem_enabled {v : Teardown} {s : St} (a : Act)
    (hm : a ∈ [Act.f1Copy, .f1End, .f2Copy, .f2End, .h1Copy, .h1End, .h2Copy, .h2End, .aRecv, .bRecv, .aSeeEOF, .bSeeEOF, .fTear, .hTear])
    (hs : (step v s a).isSome = true) : enabledInternal v s ≠ [] := by
  apply List.ne_nil_of_mem (a := a)
  unfold enabledInternal
  exact List.mem_filter.mpr ⟨hm, hs⟩

theorem ab_loops_enabled {s : St} (hinv : Inv s) (ha : s.aClosed = true) (hl : s.f1 = true ∨ s.h1 = true) :
    enabledInternal .halfClose s ≠ [] := by
  obtain ⟨(h1 : s.f1 = true), (hd : s.fDown = false), (hq : 0 < s.ab1.q) | (he : ended s.ab1 s.fDown = true)⟩ |
      ⟨(h1 : s.h1 = true), (hd : s.hDown = false), (hq : 0 < s.ab2.q) | (he : ended s.ab2 s.hDown = true)⟩ :=
    ((inv_iff s).1 hinv).1.can_move ha hl
  · exact mem_enabled .f1Copy (by simp) (by simp [step, h1, hd, hq]; split <;> rfl)
  · exact mem_enabled .f1End (by simp) (by simp [step, h1, he])
  · exact mem_enabled .h1Copy (by simp) (by simp [step, h1, hd, hq])
  · exact mem_enabled .h1End (by simp) (by simp [step, h1, he])

theorem ba_loops_enabled {s : St} (hinv : Inv s) (hb : s.bClosed = true) (hl : s.h2 = true ∨ s.f2 = true) :
    enabledInternal .halfClose s ≠ [] := by
  obtain ⟨(h1 : s.h2 = true), (hd : s.hDown = false), (hq : 0 < s.ba1.q) | (he : ended s.ba1 s.hDown = true)⟩ |
      ⟨(h1 : s.f2 = true), (hd : s.fDown = false), (hq : 0 < s.ba2.q) | (he : ended s.ba2 s.fDown = true)⟩ :=
    ((inv_iff s).1 hinv).2.can_move hb hl
  · exact mem_enabled .h2Copy (by simp) (by simp [step, h1, hd, hq]; split <;> rfl)
  · exact mem_enabled .h2End (by simp) (by simp [step, h1, he])
  · exact mem_enabled .f2Copy (by simp) (by simp [step, h1, hd, hq])
  · exact mem_enabled .f2End (by simp) (by simp [step, h1, he])

theorem enabled (s : St) (hinv : Inv s) (ha : s.aClosed = true) (hb : s.bClosed = false) (hg : goalB s = false) :
    enabledInternal .halfClose s ≠ [] := by
  by_cases hl : s.f1 = true ∨ s.h1 = true
  · exact ab_loops_enabled hinv ha hl
  obtain ⟨(hf : s.ab3.fin = true), (hc : s.bGot + s.ab3.q = s.aSent)⟩ :=
    ((inv_iff s).1 hinv).1.drained (Bool.of_not_eq_true fun h => hl (.inr h))
  cases hq : s.ab3.q with
  | succ n => exact mem_enabled .bRecv (by simp) (by simp [step, hb, hq])
  | zero =>
    have he : s.bEOF = false := Bool.of_not_eq_true fun he => by
      simp only [goalB, he, Bool.true_and, beq_eq_false_iff_ne] at hg; omega
    exact mem_enabled .bSeeEOF (by simp) (by simp [step, hb, he, hq, hf])

theorem released_enabled (s : St) (hinv : Inv s) (ha : s.aClosed = true) (hb : s.bClosed = true) (hr : released s = false) :
    enabledInternal .halfClose s ≠ [] := by
  by_cases hab : s.f1 = true ∨ s.h1 = true
  · exact ab_loops_enabled hinv ha hab
  by_cases hba : s.h2 = true ∨ s.f2 = true
  · exact ba_loops_enabled hinv hb hba
  simp only [not_or, Bool.not_eq_true] at hab hba
  cases hf : s.fDown with
  | false => exact mem_enabled .fTear (by simp) (by simp [step, hab.1, hba.2, hf])
  | true =>
    have hh : s.hDown = false := by simpa [released, hf] using hr
    exact mem_enabled .hTear (by simp) (by simp [step, hab.2, hba.1, hh])

end InvProxy.BridgeLife
