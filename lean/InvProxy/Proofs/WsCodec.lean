/-
  Proofs/WsCodec (C11).  Base64 round trip through two tables, checked by running them: the alphabet
  on the 64 sextets, and how one byte splits into the bit fields that the sextets of its group are
  made of; facts about two bytes follow by distributing shifts over `|||`.  Header injection on JSON
  values through the assoc-list laws of `lookup` / `setField`.
-/
import InvProxy.Model.WsCodec
import InvProxy.Proofs.Byte
namespace InvProxy.WsCodec
open InvProxy

theorem char_ok : ∀ n : UInt8, n.toNat < 64 → b64val (b64char n) = some n ∧ b64char n ≠ 61 :=
  Byte.forall_lt (by decide +kernel)

/-- In this order: the six fields are sextets; what byte 1, byte 2, byte 3 of a group need. -/
theorem fields : ∀ a : UInt8,
    ((a >>> 2).toNat < 64 ∧ ((a &&& 3) <<< 4).toNat < 64 ∧ (a >>> 4).toNat < 64 ∧
      ((a &&& 15) <<< 2).toNat < 64 ∧ (a >>> 6).toNat < 64 ∧ (a &&& 63).toNat < 64) ∧
    ((a >>> 2) <<< 2 ||| ((a &&& 3) <<< 4) >>> 4 = a ∧ (a >>> 4) >>> 4 = 0) ∧
    (((a &&& 3) <<< 4) <<< 4 = 0 ∧ (a >>> 4) <<< 4 ||| ((a &&& 15) <<< 2) >>> 2 = a ∧
      (a >>> 6) >>> 2 = 0) ∧
    ((a &&& 15) <<< 2) <<< 6 = 0 ∧ (a >>> 6) <<< 6 ||| a &&& 63 = a :=
  Byte.forall_byte (by decide +kernel)

theorem six_or {x y : UInt8} (hx : x.toNat < 64) (hy : y.toNat < 64) : (x ||| y).toNat < 64 := by
  rw [UInt8.toNat_or]; exact Nat.or_lt_two_pow (n := 6) hx hy

theorem six_q (a b : UInt8) : (((a &&& 3) <<< 4) ||| (b >>> 4)).toNat < 64 :=
  six_or (fields a).1.2.1 (fields b).1.2.2.1

theorem six_r (b c : UInt8) : (((b &&& 15) <<< 2) ||| (c >>> 6)).toNat < 64 :=
  six_or (fields b).1.2.2.2.1 (fields c).1.2.2.2.2.1

theorem byte1 (a b : UInt8) :
    ((a >>> 2) <<< 2) ||| ((((a &&& 3) <<< 4) ||| (b >>> 4)) >>> 4) = a := by
  rw [UInt8.shiftRight_or, (fields b).2.1.2, UInt8.or_zero, (fields a).2.1.1]

theorem byte2 (a b c : UInt8) :
    ((((a &&& 3) <<< 4) ||| (b >>> 4)) <<< 4) ||| ((((b &&& 15) <<< 2) ||| (c >>> 6)) >>> 2) = b := by
  rw [UInt8.shiftLeft_or, UInt8.shiftRight_or, (fields a).2.2.1.1, (fields c).2.2.1.2.2,
    UInt8.or_zero, UInt8.zero_or, (fields b).2.2.1.2.1]

theorem byte3 (b c : UInt8) :
    ((((b &&& 15) <<< 2) ||| (c >>> 6)) <<< 6) ||| (c &&& 63) = c := by
  rw [UInt8.shiftLeft_or, (fields b).2.2.2.1, UInt8.zero_or, (fields c).2.2.2.2]

theorem b64dec_group (a b c : UInt8) {t rest : Bytes} (ht : b64dec t = some rest) :
    b64dec (b64char (a >>> 2) :: b64char ((a &&& 3) <<< 4 ||| b >>> 4) ::
      b64char ((b &&& 15) <<< 2 ||| c >>> 6) :: b64char (c &&& 63) :: t) = some (a :: b :: c :: rest) := by
  have hs := char_ok _ (fields c).1.2.2.2.2.2
  rw [b64dec, (char_ok _ (fields a).1.1).1, (char_ok _ (six_q a b)).1, (char_ok _ (six_r b c)).1,
    hs.1, ht]
  · dsimp only; rw [byte1, byte2, byte3]
  -- side conditions of the decoder's equation for a full group: the last character is no pad
  all_goals intros; exact hs.2 ‹_›

theorem b64dec_tail2 (a b : UInt8) :
    b64dec [b64char (a >>> 2), b64char ((a &&& 3) <<< 4 ||| b >>> 4), b64char ((b &&& 15) <<< 2), 61] =
      some [a, b] := by
  have hr := char_ok _ (fields b).1.2.2.2.1
  rw [b64dec, (char_ok _ (fields a).1.1).1, (char_ok _ (six_q a b)).1, hr.1]
  · dsimp only
    rw [byte1, UInt8.shiftLeft_or, (fields a).2.2.1.1, UInt8.zero_or, (fields b).2.2.1.2.1]
  · exact hr.2

theorem b64dec_tail1 (a : UInt8) :
    b64dec [b64char (a >>> 2), b64char ((a &&& 3) <<< 4), 61, 61] = some [a] := by
  rw [b64dec, (char_ok _ (fields a).1.1).1, (char_ok _ (fields a).1.2.1).1]
  dsimp only; rw [(fields a).2.1.1]

theorem lookup_setField_same (k : Bytes) (v : J) (fs : List (Bytes × J)) :
    lookup k (setField k v fs) = some v := by
  induction fs with
  | nil => simp [setField, lookup]
  | cons p t ih => simp only [setField]; split <;> simp [lookup, *]

theorem lookup_setField_other (k k' : Bytes) (v : J) (fs : List (Bytes × J)) (h : k' ≠ k) :
    lookup k' (setField k v fs) = lookup k' fs := by
  induction fs with
  | nil => simp [setField, lookup, h.symm]
  | cons p t ih => simp only [setField]; split <;> simp_all [lookup, h.symm]

theorem setField_keys (k : Bytes) (v w : J) (fs : List (Bytes × J)) (h : lookup k fs = some w) :
    (setField k v fs).map (·.1) = fs.map (·.1) := by
  induction fs with
  | nil => simp [lookup] at h
  | cons p t ih => simp only [setField]; split <;> simp_all [lookup]

theorem lookup_append_single (k k' : Bytes) (v : J) (fs : List (Bytes × J)) :
    lookup k (fs ++ [(k', v)]) =
      match lookup k fs with
      | some x => some x
      | none => if k' = k then some v else none := by
  induction fs with
  | nil => simp [lookup]
  | cons p t ih => simp only [List.cons_append, lookup]; split <;> simp [*]
theorem addMissing_cons (p : Bytes × Bytes) (t : List (Bytes × Bytes)) (fs : List (Bytes × J)) :
    addMissing (p :: t) fs = addMissing t
      (match lookup p.1 fs with | some _ => fs | none => fs ++ [(p.1, J.str p.2)]) := rfl

end InvProxy.WsCodec
