/-
  Proofs/WsRelay: helper lemmas for C11 (bounded FIFO relay).
-/
import InvProxy.Model.WsRelay
import InvProxy.Proofs.Run
namespace InvProxy.WsRelay

theorem step_spec {μ : Type} {s s' : St μ} {a : Act} (h : step s a = some s') :
    s'.cap = s.cap ∧ s'.done ++ s'.chan ++ s'.todo = s.done ++ s.chan ++ s.todo ∧ s.done <+: s'.done ∧
      (s.chan.length ≤ max s.cap 1 → s'.chan.length ≤ max s.cap 1) := by
  obtain ⟨cap, todo, chan, done⟩ := s
  cases a <;> simp only [step] at h <;> (repeat' split at h) <;> cases h <;> simp_all <;> omega

theorem run_eq {μ : Type} (s : St μ) (as : List Act) : run s as = as.foldlM step s := by
  fun_induction run s as <;> simp [*]

theorem run_spec {μ : Type} {acts : List Act} {s s' : St μ} (h : run s acts = some s') :
    s'.cap = s.cap ∧ s'.done ++ s'.chan ++ s'.todo = s.done ++ s.chan ++ s.todo ∧ s.done <+: s'.done := by
  refine Run.foldlM_rel (R := fun s s' : St μ =>
    s'.cap = s.cap ∧ s'.done ++ s'.chan ++ s'.todo = s.done ++ s.chan ++ s.todo ∧ s.done <+: s'.done)
    (fun _ => ⟨rfl, rfl, List.prefix_refl _⟩) ?_ (fun _ _ _ _ hs => ?_) (run_eq .. ▸ h)
  · exact fun h1 h2 => ⟨h2.1.trans h1.1, h2.2.1.trans h1.2.1, h1.2.2.trans h2.2.2⟩
  · exact ⟨(step_spec hs).1, (step_spec hs).2.1, (step_spec hs).2.2.1⟩

theorem run_inv {μ : Type} {msgs : List μ} (acts : List Act) (s s' : St μ)
    (hi : s.done ++ s.chan ++ s.todo = msgs) (h : run s acts = some s') :
    s'.done ++ s'.chan ++ s'.todo = msgs :=
  (run_spec h).2.1.trans hi

theorem run_cap {μ : Type} (acts : List Act) (s s' : St μ) (h : run s acts = some s') : s'.cap = s.cap :=
  (run_spec h).1

theorem run_done_prefix {μ : Type} (acts : List Act) (s s' : St μ) (h : run s acts = some s') : s.done <+: s'.done :=
  (run_spec h).2.2

theorem run_bounded {μ : Type} (acts : List Act) (s s' : St μ)
    (hi : s.chan.length ≤ max s.cap 1) (h : run s acts = some s') :
    s'.chan.length ≤ max s'.cap 1 :=
  Run.foldlM_inv (P := fun s => s.chan.length ≤ max s.cap 1)
    (fun hp hs => (step_spec hs).1 ▸ (step_spec hs).2.2.2 hp) hi (run_eq .. ▸ h)

theorem run_append {μ : Type} (a b : List Act) (s : St μ) :
    run s (a ++ b) = (run s a).bind (fun s1 => run s1 b) := by
  simp only [run_eq, List.foldlM_append]; rfl

theorem progress {μ : Type} (s : St μ) (hne : s.todo ≠ [] ∨ s.chan ≠ []) :
    ∃ a s', step s a = some s' ∧
      2 * s'.todo.length + s'.chan.length < 2 * s.todo.length + s.chan.length := by
  cases hc : s.chan with
  | cons m t =>
    refine ⟨.deq, { s with chan := t, done := s.done ++ [m] }, ?_, ?_⟩
    · simp only [step, hc]
    · simp only [List.length_cons]; omega
  | nil =>
    cases ht : s.todo with
    | nil => simp [hc, ht] at hne
    | cons m t =>
      refine ⟨.enq, { s with todo := t, chan := s.chan ++ [m] }, ?_, ?_⟩
      · have : s.chan.length < max s.cap 1 := by rw [hc]; simp only [List.length_nil]; omega
        simp only [step, ht, this, if_true]
      · simp only [hc, List.length_cons, List.length_append, List.length_nil]; omega

theorem drain_eq_deqs {μ : Type} (k : Nat) (s : St μ) (h1 : 1 ≤ k) (h2 : k ≤ s.chan.length) :
    step s (.drain k) = run s (List.replicate k .deq) := by
  induction k generalizing s with
  | zero => omega
  | succ k ih =>
    obtain ⟨cap, todo, chan, done⟩ := s
    cases chan with
    | nil => simp at h2
    | cons m t =>
      simp only [List.length_cons] at h2
      cases k with
      | zero => simp [step, run]
      | succ j =>
        have := ih { cap := cap, todo := todo, chan := t, done := done ++ [m] } (by omega) (by simpa using h2)
        rw [List.replicate_succ, run]
        simp only [step]
        rw [← this]
        simp [step]
end InvProxy.WsRelay
