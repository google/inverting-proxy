/-
  Proofs/Stream — helper lemmas for C05 (rendezvous streaming model).
-/
import InvProxy.Model.Stream
import InvProxy.Proofs.Run
namespace InvProxy.Stream
open InvProxy

theorem step_spec {s : St} {a : Act} {s' : St} (h : step .rendezvous s a = some s') :
    stream s' = stream s ∧ (a ≠ .feed → mu s' < mu s) := by
  obtain ⟨todo, s1, acc, s2, s3, up⟩ := s
  cases a <;> simp only [step] at h <;> (repeat' split at h) <;> cases h <;>
    simp_all [stream, optBytes, mu] <;> split <;> omega

theorem run_eq (v : Variant) (s : St) (as : List Act) : run v s as = as.foldlM (step v) s := by
  fun_induction run v s as <;> simp [*]

theorem run_stream {s s' : St} {acts : List Act} (h : run .rendezvous s acts = some s') :
    stream s' = stream s :=
  Run.foldlM_rel (R := fun s s' => stream s' = stream s) (fun _ => rfl) (fun h1 h2 => h2.trans h1)
    (fun _ _ _ _ hs => (step_spec hs).1) (run_eq .. ▸ h)

theorem stream_start (chunks : List Bytes) : stream (start chunks) = chunks.flatten := by
  simp [stream, start, optBytes]

theorem enabled_of_not_caughtUp (s : St) (hc : caughtUp s = false) :
    internalEnabled .rendezvous s = true := by
  obtain ⟨todo, s1, acc, s2, s3, up⟩ := s
  cases s3 with
  | some c3 => simp [internalEnabled, step]
  | none =>
    cases s2 with
    | some c2 => simp [internalEnabled, step]
    | none =>
      by_cases hacc : acc = []
      · subst hacc
        cases s1 with
        | some c1 => simp [internalEnabled, step]
        | none => simp [caughtUp] at hc
      · simp [internalEnabled, step, hacc, Variant.ready]

theorem stream_of_caughtUp (s : St) (hc : caughtUp s = true) :
    stream s = s.uploaded.flatten ++ s.todo.flatten := by
  obtain ⟨todo, s1, acc, s2, s3, up⟩ := s
  simp only [caughtUp, Bool.and_eq_true, Option.isNone_iff_eq_none, decide_eq_true_eq] at hc
  obtain ⟨⟨⟨h1, h2⟩, h3⟩, h4⟩ := hc
  subst h1 h2 h3 h4
  simp [stream, optBytes]

end InvProxy.Stream
