/-
  Proofs/Lifecycle (C20): helper lemmas for the agent-lifecycle properties.
  Gate and monitor are both "position of the first hit" scans and are reduced to `List.findIdx?`:
  the gate over the history itself, the monitor over the list of counter values (`counts`).
-/
import InvProxy.Model.Lifecycle
import InvProxy.Proofs.Run
namespace InvProxy.Lifecycle
open InvProxy InvProxy.Gen

theorem healthCount_false (bad : Int) : agent_healthCount false bad = 0 := by
  simp [agent_healthCount, Id.run, pure]

theorem healthCount_true (bad : Int) : agent_healthCount true bad = bad + 1 := by
  simp [agent_healthCount, Id.run, pure]

theorem healthClamp_eq (t : Int) : agent_healthClamp t = if t < 1 then 1 else t := by
  simp only [agent_healthClamp, Id.run, pure]
  split <;> simp_all <;> omega

theorem healthClamp_ge (t : Int) : 1 ≤ agent_healthClamp t := by
  rw [healthClamp_eq]; split <;> omega

theorem healthClamp_id (t : Int) (h : 1 ≤ t) : agent_healthClamp t = t := by
  rw [healthClamp_eq]; split <;> omega

theorem gate_eq (hist : List Bool) : gate hist = (hist.findIdx? id).map (· + 1) := by
  induction hist with
  | nil => rfl
  | cons x t ih => cases x <;> simp [gate, List.findIdx?_cons, ih]

theorem step_exited (cfg : Cfg) (s : St) (e : Ev) (c : Nat) (hp : s.phase = .exited c) : step cfg s e = none := by
  cases e <;> simp [step, alive, hp]

/-- invariant of runs in which no health check has passed yet -/
def Unstarted (s : St) : Prop := (s.phase = .gating ∨ ∃ c, s.phase = .exited c) ∧ s.listsStarted = 0

theorem step_unstarted (cfg : Cfg) (s s' : St) (e : Ev) (hs : Unstarted s) (he : e ≠ .check true)
    (h : step cfg s e = some s') : Unstarted s' := by
  obtain ⟨hp | ⟨c, hp⟩, hl⟩ := hs
  · cases e <;> simp only [step, alive, hp, Run.ite_eq_some, Option.some.injEq, reduceCtorEq, and_false, or_false,
      decide_true, Bool.or_true, Bool.true_or, not_true_eq_false, false_and] at h
    case check ok =>
      obtain ⟨rfl, -⟩ | ⟨-, rfl⟩ := h
      · exact absurd rfl he
      · exact ⟨.inl hp, hl⟩
    case signal => exact h ▸ ⟨.inr ⟨2, rfl⟩, hl⟩
    all_goals exact h.2 ▸ ⟨.inl rfl, hl⟩
  · rw [step_exited cfg s e c hp] at h; cases h

theorem run_eq (cfg : Cfg) (s : St) (evs : List Ev) : run cfg s evs = evs.foldlM (step cfg) s := by
  fun_induction run cfg s evs <;> simp [*]

theorem run_unstarted (cfg : Cfg) (evs : List Ev) (s s' : St) (hs : Unstarted s)
    (h : run cfg s evs = some s') (hn : Ev.check true ∉ evs) : Unstarted s' :=
  Run.foldlM_rel (R := fun s s' => Unstarted s → Unstarted s') (fun _ h => h) (fun f g h => g (f h))
    (fun s e s' he h hs => step_unstarted cfg s s' e hs (fun heq => hn (heq ▸ he)) h) (run_eq .. ▸ h) hs

/-- the monitor's counter update on one check result -/
def tick (bad : Int) (ok : Bool) : Int := agent_healthCount (!ok) bad

/-- the counter before the first and after each check of a history, starting from `bad` -/
def counts (bad : Int) (hist : List Bool) : List Int := hist.scanl tick bad

theorem length_counts (bad : Int) (hist : List Bool) : (counts bad hist).length = hist.length + 1 :=
  List.length_scanl

theorem monitorFrom_eq (threshold bad : Int) (k : Nat) (hist : List Bool)
    (h : agent_healthExit bad (agent_healthClamp threshold) = false) :
    monitorFrom threshold bad k hist =
      ((counts bad hist).findIdx? (agent_healthExit · (agent_healthClamp threshold))).map (· + k) := by
  induction hist generalizing bad k with
  | nil => simp [monitorFrom, counts, h]
  | cons ok t ih =>
    simp only [monitorFrom, counts, List.scanl_cons, List.findIdx?_cons, h]
    split
    · rename_i hx; cases t <;> simp [List.scanl, List.findIdx?_cons, tick, hx, Nat.add_comm]
    · rename_i hx
      rw [ih _ (k + 1) (by simpa using hx)]
      simp only [counts, tick, Option.map_map, Bool.false_eq_true, if_false]
      congr 1; funext i; exact Nat.add_right_comm i k 1

/-- number of leading failures -/
def streak : List Bool → Nat
  | false :: r => streak r + 1
  | _ => 0

/-- the counter holds the number of failures since the last success: read the history backwards -/
theorem foldl_tick (l : List Bool) : l.foldl tick 0 = (streak l.reverse : Int) := by
  rw [List.foldl_eq_foldr_reverse]
  induction l.reverse with
  | nil => rfl
  | cons x r ih => rw [List.foldr_cons, ih]; cases x <;> simp [tick, streak, healthCount_true, healthCount_false]

theorem le_streak_iff (T : Nat) (r : List Bool) :
    T ≤ streak r ↔ T ≤ r.length ∧ (r.take T).all (· == false) = true := by
  induction r generalizing T with
  | nil => simp [streak]
  | cons x r ih => cases T <;> cases x <;> simp [streak, ih]

theorem exit_counts (threshold : Int) (hist : List Bool) (k : Nat) (hk : k < (counts 0 hist).length) :
    agent_healthExit (counts 0 hist)[k] (agent_healthClamp threshold) =
      failedWindow hist (agent_healthClamp threshold).toNat k := by
  have hT := healthClamp_ge threshold
  have hk' : k ≤ hist.length := by rw [length_counts] at hk; exact Nat.le_of_lt_succ hk
  have := le_streak_iff (agent_healthClamp threshold).toNat (hist.take k).reverse
  rw [List.take_reverse, List.all_reverse, List.length_reverse, List.length_take, Nat.min_eq_left hk'] at this
  simp only [counts, List.getElem_scanl, foldl_tick]
  rw [Bool.eq_iff_iff]
  simp only [agent_healthExit, failedWindow, decide_eq_true_eq, Bool.and_eq_true, ← this]
  omega

end InvProxy.Lifecycle
