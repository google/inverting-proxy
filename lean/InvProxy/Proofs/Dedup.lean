/-
  Proofs/Dedup (C04): `Lru.recency h = firsts h.reverse`, so a repeat inside the window stands among the
  first `cap` of the recency order; the hand-off as `Nodup` of the one list `held`.
-/
import InvProxy.Model.Dedup
import InvProxy.Proofs.Lru
import InvProxy.Proofs.Run
namespace InvProxy.Dedup
open InvProxy

variable {α : Type} [DecidableEq α]

theorem mem_firsts {l : List α} {x : α} : x ∈ firsts l ↔ x ∈ l := by
  induction l with
  | nil => simp [firsts]
  | cons y t ih =>
    by_cases hxy : x = y
    · subst hxy; simp [firsts]
    · simp [firsts, ih, hxy]

theorem nodup_firsts (l : List α) : (firsts l).Nodup := by
  induction l with
  | nil => simp [firsts]
  | cons y t ih =>
    simp only [firsts, List.nodup_cons]
    exact ⟨by simp, ih.filter _⟩

theorem firsts_append (p q : List α) : firsts (p ++ q) = firsts p ++ (firsts q).filter (· ∉ p) := by
  induction p with
  | nil => exact (List.filter_eq_self.2 fun _ _ => by simp).symm
  | cons y p ih =>
    simp only [List.cons_append, firsts, ih, List.filter_append, List.filter_filter, List.mem_cons, not_or]
    congr 2
    apply List.filter_congr
    intro z _
    simp

theorem recency_eq_firsts (h : List α) : Lru.recency h = firsts h.reverse := by
  induction h using Lru.rev_induction with
  | nil => rfl
  | append_singleton h x ih =>
    rw [Lru.recency_append_singleton, ih, List.reverse_append, List.reverse_singleton, List.singleton_append, firsts,
      (nodup_firsts _).erase_eq_filter]
    congr 1
    apply List.filter_congr
    intro z _
    simp only [bne, decide_not]; rfl

theorem WindowOK.prefix {cap : Nat} {p q : List α} (hw : WindowOK cap (p ++ q)) : WindowOK cap p := by
  intro pre x mid post hp hm
  exact hw pre x mid (post ++ q) (by simp [hp]) hm

theorem mem_after_of_window {cap : Nat} (hc : 0 < cap) {p : List α} {x : α}
    (hw : WindowOK cap (p ++ [x])) (hx : x ∈ p) : x ∈ Lru.after cap p := by
  -- split the reversed history at the first `x`, i.e. the history at its last: `p = post.reverse ++ x :: mid.reverse`
  obtain ⟨mid, post, hp, hm⟩ := List.eq_append_cons_of_mem (List.mem_reverse.2 hx)
  have hlt : (firsts mid.reverse).length < cap :=
    hw post.reverse x mid.reverse [] (by rw [← List.reverse_reverse p, hp]; simp) (by simpa using hm)
  have hle : (firsts mid).length ≤ (firsts mid.reverse).length :=
    (nodup_firsts mid).length_le_of_subset fun z hz => by simpa [mem_firsts] using hz
  -- so in the recency order only `firsts mid`, fewer than `cap` IDs, stand before `x`
  obtain ⟨k, hk⟩ := Nat.exists_eq_add_of_lt (Nat.lt_of_le_of_lt hle hlt)
  rw [Lru.after_eq_take_recency cap hc, recency_eq_firsts, hp, firsts_append, hk, Nat.add_assoc,
    List.take_length_add_append]
  simp [firsts, hm]

theorem foldl_step_fst (cap : Nat) (h : List α) : (h.foldl (step cap) ([], [])).1 = Lru.after cap h := by
  induction h using Lru.rev_induction with
  | nil => simp [Lru.after]
  | append_singleton p x ih =>
    rw [List.foldl_append, Lru.after_append_singleton, ← ih]
    simp [step]

theorem spawns_append_singleton (cap : Nat) (p : List α) (x : α) :
    spawns cap (p ++ [x]) = if x ∈ Lru.after cap p then spawns cap p else spawns cap p ++ [x] := by
  unfold spawns
  rw [List.foldl_append, ← foldl_step_fst cap p]
  simp [step]

theorem spawns_eq_firsts {cap : Nat} (hc : 0 < cap) (h : List α) (hw : WindowOK cap h) :
    spawns cap h = firsts h := by
  induction h using Lru.rev_induction with
  | nil => rfl
  | append_singleton p x ih =>
    have : x ∈ Lru.after cap p ↔ x ∈ p := ⟨Lru.mem_of_mem_after, mem_after_of_window hc hw⟩
    rw [spawns_append_singleton, firsts_append, ih hw.prefix]
    simp only [this]
    split <;> simp [firsts, *]

/-- the IDs the proxy holds: still offered, or already handed to a poller -/
def held (s : Handoff α) : List α := s.offering ++ s.replies.flatten

/-- an arrival adds a new ID to `held`, a cancellation erases one, a poll moves IDs within it -/
theorem hstep_inv {s s' : Handoff α} {a : HAct α} (hs : hstep s a = some s') (hi : (held s).Nodup) :
    (held s').Nodup := by
  unfold held at *
  cases a <;> simp only [hstep, Option.ite_none_right_eq_some, Option.ite_none_left_eq_some, Option.some.injEq] at hs <;>
    obtain ⟨h0, rfl⟩ := hs <;> dsimp only
  case arrive x =>
    rw [List.append_assoc, List.singleton_append]
    exact List.perm_middle.nodup_iff.2 (List.nodup_cons.2 ⟨fun h => h0 (List.mem_append.1 h), hi⟩)
  case cancel x => rw [← List.erase_append_left _ h0]; exact hi.erase x
  case poll taken =>
    obtain ⟨_, htn, hto⟩ := h0
    rw [List.flatten_append, ← List.append_assoc]
    refine List.nodup_append.2 ⟨hi.sublist (List.filter_sublist.append_right _), by simpa using htn, ?_⟩
    intro z hz w hw e
    subst e
    have hw : z ∈ taken := by simpa using hw
    rcases List.mem_append.1 hz with hz | hz
    · simpa [hw] using (List.mem_filter.1 hz).2
    · exact (List.nodup_append.1 hi).2.2 z (hto z hw) z hz rfl

theorem hstep_held {s s' : Handoff α} {a : HAct α} {x : α} (hs : hstep s a = some s')
    (hx : x ∈ held s ∨ a = .arrive x) (hne : a ≠ .cancel x) : x ∈ held s' := by
  unfold held at *
  rw [List.mem_append] at hx ⊢
  cases a <;> simp only [hstep, Option.ite_none_right_eq_some, Option.ite_none_left_eq_some, Option.some.injEq] at hs <;>
    obtain ⟨h0, rfl⟩ := hs <;> dsimp only
  case arrive y =>
    rcases hx with (hx | hx) | hx
    · exact .inl (List.mem_append_left _ hx)
    · exact .inr hx
    · cases hx; exact .inl (List.mem_append_right _ List.mem_cons_self)
  case cancel y =>
    rcases hx with (hx | hx) | hx
    · exact .inl ((List.mem_erase_of_ne fun e => hne (by rw [e])).2 hx)
    · exact .inr hx
    · cases hx
  case poll taken =>
    rw [List.flatten_append, List.mem_append]
    rcases hx with (hx | hx) | hx
    · by_cases ht : x ∈ taken
      · exact .inr (.inr (by simpa using ht))
      · exact .inl (List.mem_filter.2 ⟨hx, by simpa using ht⟩)
    · exact .inr (.inl hx)
    · cases hx

theorem hrun_eq (s : Handoff α) (as : List (HAct α)) : hrun s as = as.foldlM hstep s := by
  fun_induction hrun s as <;> simp [*]

theorem hrun_inv {acts : List (HAct α)} {s s' : Handoff α} (h : hrun s acts = some s') (hi : (held s).Nodup) :
    (held s').Nodup :=
  Run.foldlM_inv (f := hstep) (fun hi hs => hstep_inv hs hi) hi (hrun_eq s acts ▸ h)

/-- The invariant speaks of the actions still to come (`x` is held or will yet arrive), which a relation
    between two states cannot, hence an induction of its own and not `Run.foldlM_rel`. -/
theorem hrun_held {acts : List (HAct α)} {s s' : Handoff α} {x : α} (h : hrun s acts = some s')
    (hx : x ∈ held s ∨ HAct.arrive x ∈ acts) (hc : HAct.cancel x ∉ acts) : x ∈ held s' := by
  induction acts generalizing s with
  | nil => cases h; exact hx.resolve_right nofun
  | cons a as ih =>
    unfold hrun at h
    split at h
    · cases h
    · next hs =>
      rw [List.mem_cons, ← or_assoc, eq_comm] at hx
      exact ih h (hx.imp_left (hstep_held hs · fun e => hc (e ▸ List.mem_cons_self)))
        fun hm => hc (List.mem_cons_of_mem _ hm)

end InvProxy.Dedup
