/-
  Proofs/ShimLife (C12): the inductive invariant of the good variant of the shim
  life-cycle model, and the arithmetic of the progress measure.
-/
import InvProxy.Model.ShimLife
import InvProxy.Proofs.Run
namespace InvProxy.ShimLife
open InvProxy

/-- per-call invariant of the good variant -/
def okPc : Pc → Prop
  | .dataCheck n => 1 ≤ n
  | .dataSend n => 1 ≤ n
  | .closeChan => False
  | .panicked => False
  | .answered st => st = 200 ∨ st = 400 ∨ st = 408
  | _ => True

structure Inv (c : Nat) (s : St) : Prop where
  cqc : s.cqClosed = false
  calls : ∀ pc ∈ s.calls, okPc pc
  wd : s.writer = false → s.done = true
  cap : s.cap = c
  rq : s.sqClosed = true → s.reader = false

theorem inv_init (c : Nat) : Inv c (init c) := by
  constructor <;> simp [init]

theorem forall_mem_set {α : Type} {p : α → Prop} {l : List α} (h : ∀ x ∈ l, p x) (i : Nat) {a : α} (ha : p a) :
    ∀ x ∈ l.set i a, p x := fun x hx =>
  (List.mem_or_eq_of_mem_set hx).elim (h x) (· ▸ ha)

theorem sum_map_set {α : Type} (f : α → Nat) (l : List α) (i : Nat) (old new : α) (h : l[i]? = some old) :
    ((l.set i new).map f).sum + f old = (l.map f).sum + f new := by
  induction l generalizing i with
  | nil => simp at h
  | cons x xs ih =>
    cases i with
    | zero => cases h; simp only [List.set, List.map, List.sum_cons]; omega
    | succ j => have := ih j h; simp only [List.set, List.map, List.sum_cons]; omega

theorem mu_upd {s s' : St} {i : Nat} {old new : Pc} (hpc : s.calls[i]? = some old)
    (h2 : s'.calls = s.calls.set i new)
    (hw : new.weight + s'.cq.length + 2 * s'.incoming + s'.sq <
          old.weight + s.cq.length + 2 * s.incoming + s.sq)
    (h3 : s'.writer = s.writer) (h4 : s'.reader = s.reader) (h5 : s'.backendOpen = s.backendOpen) :
    mu s' < mu s := by
  have := sum_map_set Pc.weight s.calls i old new hpc
  unfold mu
  rw [h2, h3, h4, h5]
  omega

theorem callStep_spec {c : Nat} {s s' : St} {i : Nat} (h : Inv c s) (hs : callStep good s i = some s') :
    Inv c s' ∧ mu s' < mu s := by
  obtain ⟨cap, inTable, cq, cqClosed, sq, sqClosed, incoming, done, writer, reader, backendOpen, bsc, calls⟩ := s
  obtain ⟨rfl, hcalls, hwd, hcap, hrq⟩ := h
  unfold callStep at hs
  split at hs
  · cases hs
  next pc hpc =>
  have hok := hcalls pc (List.mem_of_getElem? hpc)
  cases pc <;> simp only [okPc] at hok <;>
    simp only [good, Bool.false_eq_true, ↓reduceIte, Run.ite_eq_some, reduceCtorEq, and_false, or_false,
      Option.some.injEq] at hs
  case' dataLoad => obtain ⟨-, rfl⟩ | ⟨hn, ⟨-, rfl⟩ | ⟨-, rfl⟩⟩ := hs
  case' dataCheck | closeLoad | pollLoad => obtain ⟨-, rfl⟩ | ⟨-, rfl⟩ := hs
  case' closeDelete => cases hs
  case' dataSend n =>
    by_cases hn : n ≤ 1 <;> simp only [nextData, hn, ↓reduceIte] at hs <;> obtain ⟨-, rfl⟩ | ⟨-, -, rfl⟩ := hs
  case' closeSend | pollWait => obtain ⟨-, rfl⟩ | ⟨-, -, rfl⟩ := hs
  -- every branch only replaces the call's pc (and lengthens or empties a queue): left to show are
  -- that the new pc is admissible, and lighter by more than the queues grow
  all_goals
    refine ⟨⟨rfl, forall_mem_set hcalls i ?_, hwd, hcap, hrq⟩, mu_upd hpc rfl ?_ rfl rfl rfl⟩ <;>
    simp +arith only [okPc, Pc.weight, setCall, List.length_append, List.length_cons, List.length_nil, true_or,
      or_true] <;> omega

theorem step_spec {c : Nat} {s : St} {a : Act} {s' : St} (h : Inv c s) (hs : step good s a = some s') :
    Inv c s' ∧ (a.internal = true → mu s' < mu s) := by
  cases a with
  | startData _ | startClose | startPoll =>
    cases hs
    exact ⟨⟨h.cqc, List.forall_mem_append.2 ⟨h.calls, by simp [okPc]⟩, h.wd, h.cap, h.rq⟩, fun hi => by cases hi⟩
  | backendSend | backendClose =>
    simp only [step, Option.ite_none_right_eq_some, Option.some.injEq] at hs
    obtain ⟨-, rfl⟩ := hs
    exact ⟨⟨h.cqc, h.calls, h.wd, h.cap, h.rq⟩, fun hi => by cases hi⟩
  | call i => exact ⟨(callStep_spec h hs).1, fun _ => (callStep_spec h hs).2⟩
  | pollTimeout i =>
    simp only [step, Option.ite_none_right_eq_some, Option.some.injEq] at hs
    obtain ⟨hpc, rfl⟩ := hs
    exact ⟨⟨h.cqc, forall_mem_set h.calls i (by simp [okPc]), h.wd, h.cap, h.rq⟩,
      fun _ => mu_upd hpc rfl (by simp [Pc.weight, setCall]) rfl rfl rfl⟩
  | writerFail =>
    simp only [step, Option.ite_none_right_eq_some, Option.some.injEq, Bool.and_eq_true] at hs
    obtain ⟨⟨hw, -⟩, rfl⟩ := hs
    exact ⟨⟨h.cqc, h.calls, fun _ => rfl, h.cap, h.rq⟩, fun _ => by simp [mu, hw]⟩
  | closerStep =>
    simp only [step, Option.ite_none_right_eq_some, Option.some.injEq, Bool.and_eq_true] at hs
    obtain ⟨⟨-, hb⟩, rfl⟩ := hs
    exact ⟨⟨h.cqc, h.calls, h.wd, h.cap, h.rq⟩, fun _ => by simp [mu, hb]⟩
  | writerStep =>
    simp only [step, Run.ite_eq_some, reduceCtorEq, and_false, false_or, Bool.not_eq_true', Bool.not_eq_false,
      Option.some.injEq] at hs
    obtain ⟨hw, ⟨hd, rfl⟩ | ⟨-, hs⟩⟩ := hs
    · exact ⟨⟨h.cqc, h.calls, fun _ => hd, h.cap, h.rq⟩, fun _ => by simp [mu, hw]⟩
    split at hs
    · simp [h.cqc] at hs
    next m t hcq =>
    simp only [Run.ite_eq_some, Option.some.injEq] at hs
    obtain ⟨-, rfl⟩ | ⟨-, rfl⟩ := hs
    · exact ⟨⟨h.cqc, h.calls, fun _ => rfl, h.cap, h.rq⟩, fun _ => by simp [mu, hw, hcq]; omega⟩
    · exact ⟨⟨h.cqc, h.calls, h.wd, h.cap, h.rq⟩, fun _ => by simp [mu, hcq]⟩
  | readerStep =>
    simp only [step, Run.ite_eq_some, reduceCtorEq, and_false, false_or, or_false, Bool.not_eq_true',
      Bool.not_eq_false, Option.some.injEq] at hs
    obtain ⟨hr, ⟨-, rfl⟩ | ⟨-, ⟨hi, -, rfl⟩ | ⟨-, -, rfl⟩⟩⟩ := hs
    · exact ⟨⟨h.cqc, h.calls, h.wd, h.cap, fun _ => rfl⟩, fun _ => by simp [mu, hr]⟩
    · exact ⟨⟨h.cqc, h.calls, h.wd, h.cap, h.rq⟩, fun _ => by simp [mu]; omega⟩
    · exact ⟨⟨h.cqc, h.calls, fun _ => rfl, h.cap, fun _ => rfl⟩, fun _ => by simp [mu, hr]⟩

theorem run_eq (v : Variant) (s : St) (as : List Act) : run v s as = as.foldlM (step v) s := by
  fun_induction run v s as <;> simp [*]

theorem inv_reachable {c : Nat} {s : St} (h : Reachable good c s) : Inv c s := by
  obtain ⟨acts, hr⟩ := h
  exact Run.foldlM_inv (fun h hs => (step_spec h hs).1) (inv_init c) (run_eq .. ▸ hr)

/-- the send is blocked (queue full, not done): the writer is alive and can dequeue -/
theorem writer_enabled {c : Nat} {s : St} (h : Inv c s) (hc : 0 < c) (hfull : ¬ s.cq.length < s.cap)
    (hd : ¬ s.done = true) : (step good s .writerStep).isSome = true := by
  have hw : s.writer = true := Bool.of_not_eq_false fun hw => hd (h.wd hw)
  have hcap := h.cap
  cases hq : s.cq with
  | nil => rw [hq] at hfull; simp at hfull; omega
  | cons m t =>
    simp only [step, hw, hq]
    simp [hd]
    split <;> simp

theorem enabled {c : Nat} {s : St} (h : Inv c s) (hc : 0 < c) {i : Nat} {pc : Pc}
    (hi : s.calls[i]? = some pc) (hna : ∀ st, pc ≠ .answered st) :
    ∃ a s', a.internal = true ∧ step good s a = some s' := by
  have hok : okPc pc := h.calls pc (List.mem_of_getElem? hi)
  have of_isSome : ∀ a : Act, a.internal = true → (step good s a).isSome = true →
      ∃ a s', a.internal = true ∧ step good s a = some s' := fun a hi h =>
    (Option.isSome_iff_exists.mp h).elim fun s' hs' => ⟨a, s', hi, hs'⟩
  cases pc with
  | dataLoad _ | dataCheck _ | closeLoad | closeDelete | pollLoad =>
    refine of_isSome (.call i) rfl ?_
    simp only [step, callStep, hi]
    (repeat' split) <;> rfl
  | dataSend _ | closeSend =>
    by_cases hfull : s.cq.length < s.cap
    · exact of_isSome (.call i) rfl (by simp [step, callStep, hi, good, h.cqc, hfull])
    by_cases hd : s.done = true
    · exact of_isSome (.call i) rfl (by simp [step, callStep, hi, good, h.cqc, hfull, hd])
    · exact of_isSome .writerStep rfl (writer_enabled h hc hfull hd)
  | pollWait => exact of_isSome (.pollTimeout i) rfl (by simp [step, hi])
  | answered st => exact absurd rfl (hna st)
  | closeChan | panicked => exact absurd hok (by simp [okPc])

/-- `backend_close_drains` as stated is not an invariant: after a session close the reader
    exits through the `done` branch while the server connection is still open (the closer
    has not run yet), and the backend can still send. -/
theorem backend_close_drains_counterexample :
    (run good (init 1) [.startClose, .call 0, .call 0, .call 0, .writerStep, .readerStep, .backendSend]).map
      (fun s => (s.sqClosed, s.incoming, s.reader)) = some (true, 1, false) := by decide

/-- hence the statement of `backend_close_drains` is refutable -/
theorem backend_close_drains_false :
    ¬ (∀ (cap : Nat) (s : St), Reachable good cap s → s.sqClosed = true → s.incoming = 0 ∧ s.reader = false) := by
  intro H
  have hex : ∃ s, run good (init 1)
      [.startClose, .call 0, .call 0, .call 0, .writerStep, .readerStep, .backendSend] = some s ∧
      s.sqClosed = true ∧ s.incoming = 1 := by decide
  obtain ⟨s, hr, hq, hinc⟩ := hex
  have := (H 1 s ⟨_, hr⟩ hq).1
  omega

end InvProxy.ShimLife
