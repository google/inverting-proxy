/-
  Proofs/ReqPath (C02): `server_filterRequestHeader` deletes a list of keys (`reqDrops`), and
  nothing else; every statement about the filter is read off that.
-/
import InvProxy.Model.ReqPath
import InvProxy.Proofs.ConnOpt
namespace InvProxy.ReqPathP
open InvProxy InvProxy.Gen

/-- the keys the filter deletes: those a `Connection` option names, then the canonical forms of the
    hop-by-hop names among the keys that are left -/
def reqDrops (h : Hdr) : List Bytes :=
  Hdr.connDrops h ++ ((Hdr.dropConnNamed h).filter fun p => server_isHopByHopHeader p.1).map fun p => Go.canon p.1

theorem filter_eq_foldl_del (h : Hdr) : server_filterRequestHeader h = (reqDrops h).foldl Hdr.del h := by
  simp only [server_filterRequestHeader, Id.run_pure, List.forIn_pure_yield_eq_foldl, pure_bind, ite_yield]
  rw [reqDrops, List.foldl_append, List.foldl_map, List.foldl_filter]
  rfl

theorem values_filter (h : Hdr) (k : Bytes) :
    Hdr.values (server_filterRequestHeader h) k = if k ∈ reqDrops h then [] else Hdr.values h k := by
  rw [filter_eq_foldl_del, Hdr.values_foldl_del]

theorem mem_reqDrops {h : Hdr} {k : Bytes} :
    k ∈ reqDrops h ↔ k ∈ Hdr.connDrops h ∨ ∃ p ∈ Hdr.dropConnNamed h, server_isHopByHopHeader p.1 = true ∧ Go.canon p.1 = k := by
  simp [reqDrops, and_assoc]

theorem isHop_canon (k : Bytes) : server_isHopByHopHeader (Go.canon k) = server_isHopByHopHeader k := by
  simp only [server_isHopByHopHeader, Go.toLower_canon]

/-- the filter never adds a field -/
theorem filter_values_nil (h : Hdr) (k : Bytes) (hv : Hdr.values h k = []) :
    Hdr.values (server_filterRequestHeader h) k = [] := by
  rw [values_filter]
  split
  · rfl
  · exact hv

theorem wf_sublist {l h : Hdr} (hs : l.Sublist h) (hwf : RespPath.WF h) : RespPath.WF l :=
  ⟨(hs.map (·.1)).nodup hwf.1, fun p hp => hwf.2 p (hs.subset hp)⟩

end InvProxy.ReqPathP
