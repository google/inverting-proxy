/-
  Proofs/Lru: `Lru.after cap` is `Lru.recency` cut off at `cap` (histories grow at the end, hence `rev_induction`).
-/
import InvProxy.Base.Lru
namespace InvProxy.Lru

variable {α : Type} [DecidableEq α]

omit [DecidableEq α] in
/-- reverse induction on lists (core has no `List.reverseRecOn`) -/
theorem rev_induction {motive : List α → Prop} (nil : motive [])
    (append_singleton : ∀ l x, motive l → motive (l ++ [x])) (l : List α) : motive l := by
  have : ∀ l : List α, motive l.reverse := by
    intro l
    induction l with
    | nil => exact nil
    | cons a t ih => rw [List.reverse_cons]; exact append_singleton _ _ ih
  simpa using this l.reverse

theorem take_erase_take (x : α) (r : List α) (c : Nat) :
    ((r.take (c + 1)).erase x).take c = (r.erase x).take c := by
  induction r generalizing c with
  | nil => simp
  | cons a t ih =>
    by_cases hax : a = x
    · subst hax; simp [List.take_take]
    · cases c with
      | zero => simp
      | succ c' =>
        have hb : ¬ (a == x) = true := by simpa using hax
        simp only [List.take_succ_cons, List.erase_cons_tail hb]
        rw [ih]

theorem mem_touch_self {cap : Nat} (hc : 0 < cap) (l : List α) (x : α) : x ∈ touch cap l x := by
  unfold touch
  cases cap with
  | zero => cases hc
  | succ c => exact List.mem_cons_self

theorem recency_append_singleton (h : List α) (x : α) :
    recency (h ++ [x]) = x :: (recency h).erase x := by
  simp [recency, List.foldl_append]

theorem after_append_singleton (cap : Nat) (h : List α) (x : α) :
    after cap (h ++ [x]) = touch cap (after cap h) x := by
  simp [after, List.foldl_append]

theorem after_eq_take_recency (cap : Nat) (hc : 0 < cap) (h : List α) :
    after cap h = (recency h).take cap := by
  obtain ⟨c, rfl⟩ : ∃ c, cap = c + 1 := ⟨cap - 1, by omega⟩
  induction h using rev_induction with
  | nil => simp [after, recency]
  | append_singleton h x ih =>
    rw [after_append_singleton, recency_append_singleton, ih]
    simp only [touch, Nat.succ_ne_zero, if_false, List.take_succ_cons, take_erase_take]

/-- capacity 0 is groupcache's "no limit" -/
theorem after_zero (h : List α) : after 0 h = recency h := by
  unfold after recency; congr

theorem nodup_touch (cap : Nat) (l : List α) (x : α) (hn : l.Nodup) : (touch cap l x).Nodup := by
  have h : (x :: l.erase x).Nodup :=
    List.nodup_cons.2 ⟨fun hm => ((List.Nodup.mem_erase_iff hn).1 hm).1 rfl, hn.erase x⟩
  unfold touch
  split
  · exact h
  · exact h.sublist (List.take_sublist _ _)

theorem nodup_recency (h : List α) : (recency h).Nodup := by
  induction h using rev_induction with
  | nil => exact List.nodup_nil
  | append_singleton h x ih => rw [recency_append_singleton]; exact nodup_touch 0 _ x ih

theorem mem_recency {h : List α} {x : α} : x ∈ recency h ↔ x ∈ h := by
  induction h using rev_induction with
  | nil => simp [recency]
  | append_singleton h y ih =>
    rw [recency_append_singleton]
    by_cases hxy : x = y
    · subst hxy; simp
    · simp [List.mem_erase_of_ne hxy, ih, hxy]

theorem after_sublist (cap : Nat) (h : List α) : (after cap h).Sublist (recency h) := by
  rcases Nat.eq_zero_or_pos cap with rfl | hc
  · rw [after_zero]; exact List.Sublist.refl _
  · rw [after_eq_take_recency cap hc]; exact List.take_sublist _ _

theorem mem_of_mem_after {cap : Nat} {p : List α} {x : α} (hx : x ∈ after cap p) : x ∈ p :=
  mem_recency.1 ((after_sublist cap p).subset hx)

end InvProxy.Lru
