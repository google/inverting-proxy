/-
  Proofs/AppAuth (C17, C19): the agent endpoints through the equations of `agentCall` and one lemma on
  its only store write; `postResponse` through an invariant that needs no arithmetic.
-/
import InvProxy.Model.AppAuth
import InvProxy.Proofs.Run
namespace InvProxy.AppAuth
open InvProxy

theorem checkBackendID_ok_iff (s : St) (c : Caller) (b b' : Bid) :
    checkBackendID s c b = .ok b' ↔
      b' = b ∧ b ≠ [] ∧ ∃ be, findBackend s.backends b = some be ∧ c.oauth = some be.BackendUser := by
  unfold checkBackendID
  cases hco : c.oauth with
  | none => simp
  | some email =>
    by_cases hb : b = []
    · simp [hb]
    · cases hf : findBackend s.backends b with
      | none => simp [hb]
      | some be =>
        by_cases he : be.BackendUser = email
        · simp [hb, he]; exact eq_comm
        · simp only [hb, he, if_false]
          constructor
          · intro h; cases h
          · rintro ⟨_, _, be', h1, h2⟩
            cases h1; cases h2; exact absurd rfl he

theorem checkBackendID_congr (s s' : St) (c : Caller) (b : Bid) (hb : s.backends = s'.backends) :
    checkBackendID s c b = checkBackendID s' c b := by
  unfold checkBackendID; rw [hb]

theorem checkBackendID_cases (s : St) (c : Caller) (b : Bid) :
    (∃ e, checkBackendID s c b = .error e) ∨ checkBackendID s c b = .ok b := by
  cases h : checkBackendID s c b with
  | error e => exact Or.inl ⟨e, rfl⟩
  | ok b' => rw [((checkBackendID_ok_iff s c b b').1 h).1]; exact Or.inr rfl

/-- the update of `reqs` in the `respond` branch of `agentCall` -/
def markDone (b : Bid) (r : Rid) (p : (Bid × Rid) × ReqRec) : (Bid × Rid) × ReqRec :=
  if p.1 = (b, r) then (p.1, { p.2 with completed := true }) else p

variable {s : St} {c : Caller} {b : Bid}

theorem agentCall_err {e : AuthErr} (h : checkBackendID s c b = .error e) (ep : AgentEp) (r : Rid) (p : Bytes) :
    agentCall s c ep b r p = (401, .authErr e, s) := by
  unfold agentCall; rw [h]

theorem agentCall_list (h : checkBackendID s c b = .ok b) (r : Rid) (p : Bytes) :
    agentCall s c .list b r p = (200, .ids (pendingOf s b), s) := by
  unfold agentCall; rw [h]

theorem agentCall_fetch (h : checkBackendID s c b = .ok b) (r : Rid) (p : Bytes) :
    agentCall s c .fetch b r p =
      if r = [] then (400, .text 1, s)
      else match getReq s.reqs (b, r) with
        | some rec => (200, .request rec.user rec.contents, s)
        | none => (404, .text 2, s) := by
  unfold agentCall; rw [h]; rfl

theorem agentCall_respond (h : checkBackendID s c b = .ok b) (r : Rid) (p : Bytes) :
    agentCall s c .respond b r p =
      if r = [] then (400, .text 3, s)
      else match getReq s.reqs (b, r) with
        | none => (404, .text 4, s)
        | some _ => (200, .empty, { s with resps := (r, p) :: s.resps, reqs := s.reqs.map (markDone b r) }) := by
  unfold agentCall; rw [h]; rfl

theorem agentCall_ne_401 (h : checkBackendID s c b = .ok b) (ep : AgentEp) (r : Rid) (p : Bytes) :
    (agentCall s c ep b r p).1 ≠ 401 := by
  cases ep
  · rw [agentCall_list h]; simp
  · rw [agentCall_fetch h]; repeat' split
    all_goals simp
  · rw [agentCall_respond h]; repeat' split
    all_goals simp

theorem agentCall_state (s : St) (c : Caller) (ep : AgentEp) (b : Bid) (r : Rid) (p : Bytes) :
    ((agentCall s c ep b r p).2.2 = s ∧ (ep = .respond → (agentCall s c ep b r p).1 ≠ 200)) ∨
    (ep = .respond ∧ checkBackendID s c b = .ok b ∧ (getReq s.reqs (b, r)).isSome ∧
      agentCall s c ep b r p =
        (200, .empty, { s with resps := (r, p) :: s.resps, reqs := s.reqs.map (markDone b r) })) := by
  rcases checkBackendID_cases s c b with ⟨e, h⟩ | h
  · rw [agentCall_err h]; exact Or.inl ⟨rfl, fun _ => by simp⟩
  · cases ep
    · rw [agentCall_list h]; exact Or.inl ⟨rfl, nofun⟩
    · rw [agentCall_fetch h]; left; repeat' split
      all_goals exact ⟨rfl, nofun⟩
    · rw [agentCall_respond h]
      split
      · exact Or.inl ⟨rfl, fun _ => by simp⟩
      · split
        · exact Or.inl ⟨rfl, fun _ => by simp⟩
        · next hg => exact Or.inr ⟨rfl, h, by rw [hg]; rfl, rfl⟩

theorem getReq_mem {l : List ((Bid × Rid) × ReqRec)} {k : Bid × Rid} {x : ReqRec} (h : getReq l k = some x) :
    (k, x) ∈ l := by
  induction l with
  | nil => cases h
  | cons q t ih =>
    unfold getReq at h
    split at h
    · next hk => cases h; rw [← hk]; exact List.mem_cons_self
    · exact List.mem_cons_of_mem _ (ih h)

theorem getReq_markDone (l : List ((Bid × Rid) × ReqRec)) {b : Bid} {r : Rid} {k : Bid × Rid} (hk : k ≠ (b, r)) :
    getReq (l.map (markDone b r)) k = getReq l k := by
  induction l with
  | nil => rfl
  | cons q t ih =>
    obtain ⟨qk, qr⟩ := q
    unfold markDone at ih ⊢
    simp only [List.map_cons]
    split
    · next hq => simp only [getReq, ih, show qk ≠ k from fun e => hk (e ▸ hq), if_false]
    · simp only [getReq, ih]

theorem not_pending_markDone (l : List ((Bid × Rid) × ReqRec)) (b : Bid) (r : Rid) :
    r ∉ ((l.map (markDone b r)).filter (fun p => p.1.1 = b ∧ p.2.completed = false)).map (·.1.2) := by
  intro hm
  obtain ⟨q, hq, hqr⟩ := List.mem_map.1 hm
  obtain ⟨hq1, hq2⟩ := List.mem_filter.1 hq
  obtain ⟨q0, _, rfl⟩ := List.mem_map.1 hq1
  have hq2 := of_decide_eq_true hq2
  unfold markDone at hq2 hqr
  split at hq2
  · cases hq2.2
  · next hn => rw [if_neg hn] at hqr; exact hn (Prod.ext hq2.1 hqr)

theorem getResp_agentCall {s : St} {c : Caller} {ep : AgentEp} {b : Bid} {r : Rid} {p : Bytes} {rid : Rid} {v : Bytes}
    (h : getResp (agentCall s c ep b r p).2.2.resps rid = some v) :
    getResp s.resps rid = some v ∨ (ep = .respond ∧ r = rid ∧ p = v) := by
  rcases agentCall_state s c ep b r p with ⟨h1, _⟩ | ⟨h1, _, _, h2⟩
  · rw [h1] at h; exact Or.inl h
  · rw [h2] at h
    unfold getResp at h
    split at h
    · next hr => exact Or.inr ⟨h1, hr, Option.some.inj h⟩
    · exact Or.inl h

theorem userPoll_200 {s : St} {rid : Rid} {v : Bytes} (h : userPoll s rid = (200, .response v)) :
    getResp s.resps rid = some v ∧ v ≠ [] := by
  unfold userPoll at h
  split at h
  · next w hg =>
    split at h
    · cases h
    · next hw => cases h; exact ⟨hg, hw⟩
  · cases h

/-- fresh request IDs: the ID alone determines the backend under which a request is stored -/
theorem getReq_other_backend_none {l : List ((Bid × Rid) × ReqRec)} (hn : (l.map (·.1.2)).Nodup) {b b' : Bid} {r : Rid}
    (h : (getReq l (b, r)).isSome) (hne : b' ≠ b) : getReq l (b', r) = none := by
  cases hg : getReq l (b', r) with
  | none => rfl
  | some y =>
    obtain ⟨x, hx⟩ := Option.isSome_iff_exists.1 h
    have hp := List.pairwise_map.1 hn
    have := List.Pairwise.forall_of_forall_of_flip (R := fun p q => p.1.2 = q.1.2 → p = q) (fun _ _ _ => rfl)
      (hp.imp fun h e => absurd e h) (hp.imp fun h e => absurd e.symm h) (getReq_mem hg) (getReq_mem hx) rfl
    exact absurd (congrArg (·.1.1) this) hne

theorem userPost_some {s : St} {c : Caller} {ls : Bytes → Option Int} {now : Int} {rid : Rid} {path contents : Bytes} {b : Bid}
    (h : (userPost s c ls now rid path contents).2.1 = some b) :
    ∃ u, c.user = some u ∧ Route.lookup { backends := s.backends, lastSeen := ls } u path now = some b ∧
      (userPost s c ls now rid path contents).2.2 =
        { s with reqs := ((b, rid), { user := u, contents := contents, completed := false }) :: s.reqs.filter (fun p => p.1 ≠ (b, rid)) } := by
  unfold userPost at h ⊢
  split at h
  · cases h
  · next u hu =>
    split at h
    · cases h
    · next b0 hl => cases h; exact ⟨u, hu, hl, rfl⟩

/-- while a writer has not finished, a slot of the channel is kept free for its error report -/
def PRInv (s : PR) : Prop :=
  s.a ≤ 2 ∧ s.b ≤ 2 ∧ (s.a ≠ 2 ∨ s.b ≠ 2 → s.buf < s.cap) ∧ (s.a ≠ 2 → s.b ≠ 2 → s.buf + 1 < s.cap)

theorem prStep_inv {s s' : PR} (x : PRAct) (hi : PRInv s) (h : prStep s x = some s') : PRInv s' := by
  obtain ⟨ha, hb, h1, h2⟩ := hi
  cases x <;> simp only [prStep, Option.ite_none_right_eq_some, Option.some.injEq] at h <;> obtain ⟨h0, rfl⟩ := h
  case aFinish f =>
    have hn : s.a ≠ 2 := by rw [h0]; decide
    exact ⟨by cases f <;> simp, hb, fun _ => h1 (.inl hn), fun _ => h2 hn⟩
  case bFinish f =>
    have hn : s.b ≠ 2 := by rw [h0]; decide
    exact ⟨ha, by cases f <;> simp, fun _ => h1 (.inr hn), fun h _ => h2 h hn⟩
  case aSend =>
    have hn : s.a ≠ 2 := by rw [h0.1]; decide
    exact ⟨Nat.le_refl 2, hb, fun h => h2 hn (h.resolve_left (· rfl)), fun h => absurd rfl h⟩
  case bSend =>
    have hn : s.b ≠ 2 := by rw [h0.1]; decide
    exact ⟨ha, Nat.le_refl 2, fun h => h2 (h.resolve_right (· rfl)) hn, fun _ h => absurd rfl h⟩

theorem prInv_init {cap : Nat} (hc : 2 ≤ cap) : PRInv { cap := cap, buf := 0, a := 0, b := 0 } :=
  ⟨Nat.zero_le 2, Nat.zero_le 2, fun _ => Nat.lt_of_lt_of_le Nat.zero_lt_two hc, fun _ _ => hc⟩

theorem prRun_eq (s : PR) (xs : List PRAct) : prRun s xs = xs.foldlM prStep s := by
  fun_induction prRun s xs <;> simp [*]

theorem prInv_enabled {s : PR} (hi : PRInv s) (hn : prDone s = false) : prEnabled s = true := by
  obtain ⟨ha, hb, h1, _⟩ := hi
  simp only [prDone, Bool.and_eq_false_imp, decide_eq_true_eq, decide_eq_false_iff_not] at hn
  have hlt : s.buf < s.cap := h1 (Decidable.or_iff_not_imp_left.2 fun h => hn (Decidable.not_not.1 h))
  have : ∀ a ≤ 2, ∀ b ≤ 2, (a = 2 → ¬b = 2) → a = 0 ∨ b = 0 ∨ a = 1 ∨ b = 1 := by decide
  simpa only [prEnabled, hlt, decide_true, Bool.and_true, Bool.or_eq_true, decide_eq_true_eq, or_assoc]
    using this _ ha _ hb hn

end InvProxy.AppAuth
