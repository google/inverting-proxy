/-
  Proofs/Relay (C01): inductive invariant of the relay transition system under the
  atomic ID generator.
-/
import InvProxy.Model.Relay
import InvProxy.Proofs.Run
namespace InvProxy.Relay

theorem lookup_mem {m : List (Rid × Cid)} {r : Rid} {c : Cid}
    (h : lookup m r = some c) : (r, c) ∈ m := by
  induction m with
  | nil => simp [lookup] at h
  | cons p t ih =>
    obtain ⟨k, v⟩ := p
    simp only [lookup] at h
    split at h
    · simp_all
    · exact List.mem_cons_of_mem _ (ih h)

structure Inv (s : St) : Prop where
  lt : ∀ p ∈ s.pending, p.1 < s.next
  nodup : (s.pending.map (·.1)).Nodup
  fetched : ∀ w r c, (w, r, c) ∈ s.fetched → lookup s.pending r = some c
  produced : ∀ r c, (r, c) ∈ s.produced → lookup s.pending r = some c
  deliv : ∀ c tok, (c, tok) ∈ s.delivered → tok = c
  dnodup : (s.delivered.map (·.1)).Nodup

theorem inv_init : Inv init := by
  constructor <;> simp [init]

/-- a registered ID is below the generator state, so the next registration does not shadow it -/
theorem lookup_fresh {s : St} (hi : Inv s) {r : Rid} {c v : Cid}
    (h : lookup s.pending r = some c) : lookup ((s.next, v) :: s.pending) r = some c := by
  rw [lookup, if_neg (Nat.ne_of_gt (hi.lt _ (lookup_mem h)))]; exact h

theorem inv_step {s : St} {a : Act} {s' : St} (hi : Inv s) (h : step .atomic s a = some s') : Inv s' := by
  cases a with
  | arrive c =>
    simp only [step] at h
    split at h <;> cases h
    refine ⟨fun p hp => ?_, List.nodup_cons.2 ⟨fun hm => ?_, hi.nodup⟩, fun w r c h => lookup_fresh hi (hi.fetched w r c h),
      fun r c h => lookup_fresh hi (hi.produced r c h), hi.deliv, hi.dnodup⟩
    · rcases List.mem_cons.1 hp with rfl | hp
      · exact Nat.lt_succ_self _
      · exact Nat.lt_succ_of_lt (hi.lt p hp)
    · obtain ⟨p, hp, hpe⟩ := List.mem_map.1 hm
      exact Nat.lt_irrefl _ (hpe ▸ hi.lt p hp)
  | read c => simp only [step, reduceCtorEq, false_and, if_false] at h
  | advance c =>
    simp only [step, reduceCtorEq, if_false] at h
    split at h <;> cases h
  | fetch w r =>
    simp only [step] at h
    split at h <;> cases h
    rename_i c hc
    refine { hi with fetched := fun w' r' c' hm => ?_ }
    rcases List.mem_cons.1 hm with heq | hm
    · cases heq; exact hc
    · exact hi.fetched _ _ _ hm
  | upload w =>
    simp only [step] at h
    split at h <;> cases h
    rename_i r c hf
    refine { hi with fetched := fun _ _ _ hm => hi.fetched _ _ _ (List.mem_filter.1 hm).1, produced := fun r' c' hm => ?_ }
    rcases List.mem_cons.1 hm with heq | hm
    · cases heq; exact hi.fetched _ _ _ (List.mem_of_find?_eq_some hf)
    · exact hi.produced _ _ hm
  | deliver r =>
    simp only [step] at h
    (repeat' split at h) <;> cases h
    rename_i r' tok c hf hl hnd
    have hr : r' = r := by simpa using List.find?_some hf
    subst hr
    have htc : tok = c := Option.some.inj ((hi.produced _ _ (List.mem_of_find?_eq_some hf)).symm.trans hl)
    refine { hi with produced := fun _ _ hm => hi.produced _ _ (List.mem_of_mem_erase hm), deliv := fun c' tok' hm => ?_,
                     dnodup := List.nodup_cons.2 ⟨hnd, hi.dnodup⟩ }
    rcases List.mem_cons.1 hm with heq | hm
    · cases heq; exact htc
    · exact hi.deliv _ _ hm

theorem run_eq (g : Gen) (s : St) (as : List Act) : run g s as = as.foldlM (step g) s := by
  fun_induction run g s as <;> simp [*]

theorem inv_reachable {s : St} (h : Reachable .atomic s) : Inv s :=
  h.elim fun _ ha => Run.foldlM_inv @inv_step inv_init (run_eq .. ▸ ha)

end InvProxy.Relay
