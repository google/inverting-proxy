/-
  Proofs/Bridge: helper lemmas for C15.  Hex: a table of the 16 digits and how a byte splits into
  two nibbles.  Stream: `pending` is what `fill` and `read` leave unchanged.
-/
import InvProxy.Model.Bridge
import InvProxy.Proofs.Byte
namespace InvProxy.Bridge
open InvProxy

def isLowerHex (c : UInt8) : Bool := (48 ≤ c && c ≤ 57) || (97 ≤ c && c ≤ 102)

theorem digit_table : ∀ n : UInt8, n.toNat < 16 →
    unhex (hexDigit n) = some n ∧ isLowerHex (hexDigit n) = true :=
  Byte.forall_lt (by decide +kernel)

theorem nibbles : ∀ b : UInt8,
    (b >>> 4).toNat < 16 ∧ (b &&& 15).toNat < 16 ∧ (b >>> 4) <<< 4 ||| b &&& 15 = b :=
  Byte.forall_byte (by decide +kernel)

theorem hexDec_hexEnc (bs : Bytes) : hexDec (hexEnc bs) = some bs := by
  induction bs with
  | nil => rfl
  | cons b t ih =>
    obtain ⟨h1, h2, h3⟩ := nibbles b
    simp only [hexEnc, hexDec, digit_table _ h1, digit_table _ h2, ih, h3]

theorem hexDec_odd : ∀ p : Bytes, p.length % 2 = 1 → hexDec p = none
  | [], h => by cases h
  | [_], _ => rfl
  | a :: b :: t, h => by
    rw [List.length_cons, List.length_cons, Nat.add_assoc, Nat.add_mod_right] at h
    rw [hexDec, hexDec_odd t h]
    cases unhex a <;> cases unhex b <;> rfl

theorem pending_append (a b : Bytes) (t : List Msg) :
    pending (a ++ b) t = (pending b t).map (a ++ ·) := by
  induction t generalizing b with
  | nil => rfl
  | cons m t ih =>
    cases m with
    | other p => exact ih b
    | text p =>
      simp only [pending]
      cases hexDec p <;> cases pending [] t <;> simp [List.append_assoc]

theorem pending_text {p raw : Bytes} (h : hexDec p = some raw) (buf : Bytes) (t : List Msg) :
    pending buf (.text p :: t) = pending (buf ++ raw) t := by
  rw [← List.append_nil (buf ++ raw), pending_append, pending, h]
  cases pending [] t <;> rfl

/-- The `fill` loop changes the representation of the pending stream, not the stream, and ends
    with a non-empty buffer unless the stream is empty. -/
theorem fill_pending (buf : Bytes) (inbox : List Msg) :
    match fill buf inbox with
    | none => pending buf inbox = none
    | some none => pending buf inbox = some []
    | some (some (b', i')) => b' ≠ [] ∧ pending b' i' = pending buf inbox := by
  fun_induction fill buf inbox with
  | case1 b bs inbox => exact ⟨nofun, rfl⟩
  | case2 => rfl
  | case3 p t ih => exact ih
  | case4 p t h => simp [pending, h]
  | case5 p t raw h ih => rw [pending_text h]; exact ih

theorem read_pending (n : Nat) (r : Reader) :
    match read n r with
    | .err => pending r.buffered r.inbox = none
    | .block => pending r.buffered r.inbox = some []
    | .data bs r' => (0 < n → bs ≠ []) ∧
        pending r.buffered r.inbox = (pending r'.buffered r'.inbox).map (bs ++ ·) := by
  have hf := fill_pending r.buffered r.inbox
  unfold read
  split at hf <;> rename_i heq <;> rw [heq]
  · exact hf
  · exact hf
  · next b' i' =>
    rw [← hf.2]
    exact ⟨fun hn => by simpa [Nat.ne_of_gt hn] using hf.1,
      by rw [← pending_append, List.take_append_drop]⟩

theorem read_preserves (n : Nat) (r r' : Reader) (bs rest : Bytes)
    (hp : pending r.buffered r.inbox = some rest) (h : read n r = .data bs r') :
    ∃ rest', pending r'.buffered r'.inbox = some rest' ∧ rest = bs ++ rest' := by
  have := read_pending n r
  rw [h, hp] at this
  obtain ⟨rest', h1, h2⟩ := Option.map_eq_some_iff.1 this.2.symm
  exact ⟨rest', h1, h2.symm⟩

theorem read_prog (n : Nat) (hn : 0 < n) (r : Reader) (rest : Bytes)
    (hp : pending r.buffered r.inbox = some rest) (hne : rest ≠ []) :
    ∃ bs r', read n r = .data bs r' ∧ bs ≠ [] := by
  have := read_pending n r
  rw [hp] at this
  split at this
  · cases this
  · cases this; exact absurd rfl hne
  · exact ⟨_, _, ‹_›, this.1 hn⟩

theorem read_empty (n : Nat) (hn : 0 < n) (r : Reader)
    (hp : pending r.buffered r.inbox = some []) : read n r = .block := by
  have := read_pending n r
  rw [hp] at this
  split at this
  · cases this
  · assumption
  · obtain ⟨q, _, h⟩ := Option.map_eq_some_iff.1 this.2.symm
    exact absurd (List.append_eq_nil_iff.1 h).1 (this.1 hn)

theorem reads_prefix (ns : List Nat) (r : Reader) (rest : Bytes)
    (hp : pending r.buffered r.inbox = some rest) : reads ns r <+: rest := by
  induction ns generalizing r rest with
  | nil => simp [reads]
  | cons n ns ih =>
    simp only [reads]
    cases h : read n r with
    | block => simp
    | err => simp
    | data bs r' =>
      obtain ⟨rest', hp', he⟩ := read_preserves n r r' bs rest hp h
      subst he
      simp only
      exact (List.prefix_append_right_inj bs).2 (ih r' rest' hp')

theorem reads_complete (ns : List Nat) (r : Reader) (rest : Bytes)
    (hp : pending r.buffered r.inbox = some rest) (hpos : ∀ n ∈ ns, 0 < n)
    (hlen : rest.length ≤ ns.length) : reads ns r = rest := by
  induction ns generalizing r rest with
  | nil =>
    simp at hlen; simp [reads, hlen]
  | cons n ns ih =>
    simp only [reads]
    by_cases hne : rest = []
    · subst hne
      rw [read_empty n (hpos n (by simp)) r hp]
    · obtain ⟨bs, r', h, hbs⟩ := read_prog n (hpos n (by simp)) r rest hp hne
      obtain ⟨rest', hp', he⟩ := read_preserves n r r' bs rest hp h
      subst he
      rw [h]
      simp only
      congr 1
      apply ih r' rest' hp' (fun m hm => hpos m (by simp [hm]))
      have : 0 < bs.length := List.length_pos_iff.2 hbs
      simp at hlen
      omega

theorem pending_writes (buf : Bytes) (ws : List Bytes) :
    pending buf (ws.map write) = some (buf ++ ws.flatten) := by
  induction ws generalizing buf with
  | nil => simp [pending]
  | cons w ws ih => rw [List.map_cons, write, pending_text (hexDec_hexEnc w), ih]; simp

theorem fill_filter (buf : Bytes) (inbox : List Msg) :
    fill buf (inbox.filter isText) =
      (fill buf inbox).map (Option.map (fun p => (p.1, p.2.filter isText))) := by
  fun_induction fill buf inbox <;> simp_all [fill, isText, List.filter]

end InvProxy.Bridge
