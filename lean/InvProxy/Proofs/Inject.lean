/-
  Proofs/Inject (C14): helper lemmas for Props/C14.  The banner writer is the plain writer followed by a
  rewrite (`frame`) of the event list: `bannered_eq`; what C14 claims are then facts about `frame`.
-/
import InvProxy.Model.Inject
import InvProxy.Proofs.Canon
namespace InvProxy.Inject
open InvProxy InvProxy.Gen

theorem isHTMLRequest_iff (r : Req) :
    banner_isHTMLRequest r = true ↔
      (r.Method = [71,69,84] ∧ Go.contains (Hdr.Get r.Header banner_acceptHeader) [116,101,120,116,47,104,116,109,108] = true) :=
  bne_return_iff ..

theorem isFrameable_iff (c : Int) (h : Hdr) :
    banner_isFrameableHTMLResponse c h = true ↔
      (c = 200 ∧
       (∀ cd ∈ Hdr.values h banner_contentDispositionHeader, Go.contains (Go.toLower cd) [97,116,116,97,99,104,109,101,110,116] = false) ∧
       (∃ ct ∈ Hdr.values h banner_contentTypeHeader,
          Go.contains (Go.beforeSep ct [59]) [116,101,120,116,47,104,116,109,108] = true ∨ Go.contains (Go.beforeSep ct [59]) [97,112,112,108,105,99,97,116,105,111,110,47,120,104,116,109,108,43,120,109,108] = true)) := by
  refine (bne_return_iff ..).trans (and_congr_right fun _ => ?_)
  simp only [forIn_ite_done]
  generalize h1 : (Hdr.values h banner_contentDispositionHeader).any _ = a1
  generalize h2 : (Hdr.values h banner_contentTypeHeader).any _ = a2
  rw [any_false_and_any_or_iff h1 h2]
  cases a1 <;> cases a2 <;> decide

theorem index_of_prefix {s pat : Bytes} (h : pat <+: s) : Go.index s pat = some 0 := by
  cases s with
  | nil => rw [List.prefix_nil.mp h]; rfl
  | cons c cs => rw [Go.index, if_pos (List.isPrefixOf_iff_prefix.mpr h)]

theorem index_nil_of_not_prefix {pat : Bytes} (h : ¬ pat <+: []) : Go.index [] pat = none := by
  rw [Go.index, if_neg (fun e => h (List.isEmpty_iff.mp e ▸ List.nil_prefix))]

theorem index_cons_of_not_prefix {c : UInt8} {cs pat : Bytes} (h : ¬ pat <+: c :: cs) :
    Go.index (c :: cs) pat = (Go.index cs pat).map (· + 1) := by
  rw [Go.index, if_neg (fun e => h (List.isPrefixOf_iff_prefix.mp e))]

theorem index_eq_some (s pat : Bytes) (i : Nat) (h : Go.index s pat = some i) :
    pat <+: s.drop i ∧ (∀ j < i, ¬ pat <+: s.drop j) ∧ i + pat.length ≤ s.length := by
  induction s generalizing i with
  | nil =>
    by_cases hp : pat <+: []
    · cases (index_of_prefix hp).symm.trans h
      exact ⟨hp, fun j hj => absurd hj (Nat.not_lt_zero j), Nat.zero_add _ ▸ hp.length_le⟩
    · cases (index_nil_of_not_prefix hp).symm.trans h
  | cons c cs ih =>
    by_cases hp : pat <+: c :: cs
    · cases (index_of_prefix hp).symm.trans h
      exact ⟨hp, fun j hj => absurd hj (Nat.not_lt_zero j), Nat.zero_add _ ▸ hp.length_le⟩
    · rw [index_cons_of_not_prefix hp, Option.map_eq_some_iff] at h
      obtain ⟨i', hi, rfl⟩ := h
      obtain ⟨h1, h2, h3⟩ := ih i' hi
      refine ⟨h1, fun j hj => ?_, Nat.add_right_comm .. ▸ Nat.succ_le_succ h3⟩
      cases j with
      | zero => exact hp
      | succ j => exact h2 j (Nat.lt_of_succ_lt_succ hj)

theorem index_append_of_eq_some (a b pat : Bytes) (i : Nat) (h : Go.index a pat = some i) :
    Go.index (a ++ b) pat = some i := by
  induction a generalizing i with
  | nil =>
    by_cases hp : pat <+: []
    · cases (index_of_prefix hp).symm.trans h
      exact index_of_prefix (hp.trans (List.prefix_append _ _))
    · cases (index_nil_of_not_prefix hp).symm.trans h
  | cons c cs ih =>
    by_cases hp : pat <+: c :: cs
    · cases (index_of_prefix hp).symm.trans h
      exact index_of_prefix (hp.trans (List.prefix_append _ _))
    · have hl := (index_eq_some _ _ _ h).2.2
      rw [index_cons_of_not_prefix hp, Option.map_eq_some_iff] at h
      obtain ⟨i', hi, rfl⟩ := h
      rw [List.cons_append, index_cons_of_not_prefix, ih i' hi]; rfl
      exact fun hq => hp (List.prefix_of_prefix_length_le hq (List.prefix_append (c :: cs) b) (Nat.le_of_add_left_le hl))

theorem replaceFirst_insert {s old : Bytes} {i : Nat} (h : Go.index s old = some i) (new : Bytes) :
    Go.replaceFirst s old (old ++ new) = s.take (i + old.length) ++ new ++ s.drop (i + old.length) := by
  obtain ⟨t, ht⟩ := (index_eq_some s old i h).1
  rw [Go.replaceFirst, h, List.take_add, ← ht, List.take_left]
  simp only [List.append_assoc]

theorem mediaType_append (mt rest : Bytes) (h : ∀ b ∈ mt, b ≠ 59) : mediaType (mt ++ rest) = mt ++ mediaType rest :=
  List.takeWhile_append_of_pos fun b hb => bne_iff_ne.mpr (h b hb)

/-- the first head event of an event list (`headOf` is this on `plain`) -/
def hd (evs : List Ev) : Option (Int × Hdr) :=
  evs.findSome? fun e => match e with | .head c h => some (c, h) | _ => none

theorem hd_append (a b : List Ev) : hd (a ++ b) = (hd a).or (hd b) := List.findSome?_append
theorem statusOf_append (a b : List Ev) : statusOf (a ++ b) = (statusOf a).or (statusOf b) := List.findSome?_append
theorem interimsOf_append (a b : List Ev) : interimsOf (a ++ b) = interimsOf a ++ interimsOf b := List.filter_append ..
theorem bodyOf_append (a b : List Ev) : bodyOf (a ++ b) = bodyOf a ++ bodyOf b := List.flatMap_append

theorem hd_cons_head (c : Int) (h : Hdr) (l : List Ev) : hd (.head c h :: l) = some (c, h) := rfl
theorem statusOf_cons_head (c : Int) (h : Hdr) (l : List Ev) : statusOf (.head c h :: l) = some c := rfl
theorem statusOf_body (b : Bytes) : statusOf [.body b] = none := rfl
theorem statusOf_interim (c : Int) (h : Hdr) : statusOf [.interim c h] = none := rfl
theorem interimsOf_head (c : Int) (h : Hdr) : interimsOf [.head c h] = [] := rfl
theorem interimsOf_body (b : Bytes) : interimsOf [.body b] = [] := rfl
theorem interimsOf_head_body (c : Int) (h : Hdr) (b : Bytes) : interimsOf [.head c h, .body b] = [] := rfl
theorem interimsOf_interim (c : Int) (h : Hdr) : interimsOf [.interim c h] = [.interim c h] := rfl
theorem bodyOf_head (c : Int) (h : Hdr) : bodyOf [.head c h] = [] := rfl
theorem bodyOf_interim (c : Int) (h : Hdr) : bodyOf [.interim c h] = [] := rfl

/-- the body writes among the operations: all that a writer still emits once the head is out -/
def bodies : List Op → List Ev
  | [] => []
  | .write b :: t => .body b :: bodies t
  | _ :: t => bodies t

/-- what the plain writer emits, starting from header map `h` with the head not yet written -/
def evs (h : Hdr) : List Op → List Ev
  | [] => []
  | .setHeader k v :: t => evs (Hdr.set h k v) t
  | .addHeader k v :: t => evs (Hdr.add h k v) t
  | .delHeader k :: t => evs (Hdr.del h k) t
  | .writeHeader c :: t => if isInterim c then .interim c h :: evs h t else .head c h :: bodies t
  | .write b :: t => .head 200 h :: .body b :: bodies t

/-- what the banner writer makes of the plain writer's events -/
def frame (cfg : Cfg) : List Ev → List Ev
  | [] => []
  | .head c h :: t =>
    if !banner_isFrameableHTMLResponse c h then .head c h :: t
    else if cfg.alreadyFramed then .head c (markFrame cfg h) :: t
    else [.head c (Hdr.Del (markFrame cfg h) banner_contentEncodingHeader), .body cfg.page]
  | e :: t => e :: frame cfg t

theorem plain_run_wrote (ops : List Op) (h : Hdr) (out : List Ev) :
    (ops.foldl Plain.step ⟨h, true, out⟩).out = out ++ bodies ops := by
  induction ops generalizing h out with
  | nil => exact (List.append_nil _).symm
  | cons op t ih =>
    cases op with
    | write b => exact (ih _ _).trans (List.append_assoc ..)
    | _ => exact ih _ _

theorem bw_run_wrote (cfg : Cfg) (ops : List Op) (h : Hdr) (wb : Bool) (out : List Ev) :
    (ops.foldl (BW.step cfg) ⟨h, true, wb, out⟩).out = out ++ if wb then bodies ops else [] := by
  induction ops generalizing h out with
  | nil => cases wb <;> exact (List.append_nil _).symm
  | cons op t ih =>
    cases op with
    | write b =>
      cases wb
      · exact ih _ _
      · exact (ih _ _).trans (List.append_assoc ..)
    | _ => exact ih _ _

theorem plain_run_eq (ops : List Op) (h : Hdr) (pre : List Ev) :
    (ops.foldl Plain.step ⟨h, false, pre⟩).out = pre ++ evs h ops := by
  induction ops generalizing h pre with
  | nil => exact (List.append_nil _).symm
  | cons op t ih =>
    cases op with
    | writeHeader c =>
      cases hi : isInterim c
      · simp [Plain.step, evs, hi, plain_run_wrote]
      · simp [Plain.step, evs, hi, ih]
    | write b => simp [Plain.step, evs, plain_run_wrote]
    | _ => exact ih _ _

theorem bw_writeHeader_final (cfg : Cfg) (h : Hdr) (pre : List Ev) (c : Int) (hi : isInterim c = false) :
    (BW.writeHeader cfg ⟨h, false, false, pre⟩ c).wroteHeader = true ∧
    ∀ t, (t.foldl (BW.step cfg) (BW.writeHeader cfg ⟨h, false, false, pre⟩ c)).out = pre ++ frame cfg (.head c h :: bodies t) := by
  simp only [BW.writeHeader, hi, frame]
  cases banner_isFrameableHTMLResponse c h <;> cases cfg.alreadyFramed <;> simp [bw_run_wrote]

theorem bw_run_eq (cfg : Cfg) (ops : List Op) (h : Hdr) (pre : List Ev) :
    (ops.foldl (BW.step cfg) ⟨h, false, false, pre⟩).out = pre ++ frame cfg (evs h ops) := by
  induction ops generalizing h pre with
  | nil => exact (List.append_nil _).symm
  | cons op t ih =>
    cases op with
    | writeHeader c =>
      cases hi : isInterim c
      · simp only [evs, hi]; exact (bw_writeHeader_final cfg h pre c hi).2 t
      · simp [BW.step, BW.writeHeader, evs, hi, ih, frame]
    | write b =>
      -- `Write` before any `WriteHeader` is `WriteHeader(200)` followed by that `Write`
      have ⟨hw, ht⟩ := bw_writeHeader_final cfg h pre 200 (by decide)
      have e : BW.step cfg ⟨h, false, false, pre⟩ (.write b) =
          BW.step cfg (BW.writeHeader cfg ⟨h, false, false, pre⟩ 200) (.write b) := by
        simp only [BW.step, hw, if_true, Bool.false_eq_true, if_false]
      rw [List.foldl_cons, e]
      exact ht (.write b :: t)
    | _ => exact ih _ _

theorem bannered_eq (cfg : Cfg) (r : Req) (h0 : Hdr) (ops : List Op) :
    bannered cfg r h0 ops = if banner_isHTMLRequest r then frame cfg (plain h0 ops) else plain h0 ops := by
  rw [bannered, plain, plain_run_eq, bw_run_eq, List.nil_append, List.nil_append]
  cases banner_isHTMLRequest r <;> rfl

/-- a response as the plain writer emits it: interim responses, then possibly the head, and after it no
    further interim response -/
def Resp : List Ev → Prop
  | [] => True
  | .interim _ _ :: t => Resp t
  | .head _ _ :: t => interimsOf t = []
  | .body _ :: _ => False

theorem interimsOf_bodies (t : List Op) : interimsOf (bodies t) = [] := by
  induction t with
  | nil => rfl
  | cons op t ih => cases op <;> exact ih

theorem resp_plain (h0 : Hdr) (ops : List Op) : Resp (plain h0 ops) := by
  rw [plain, plain_run_eq, List.nil_append]
  induction ops generalizing h0 with
  | nil => trivial
  | cons op t ih =>
    cases op with
    | writeHeader c =>
      simp only [evs]
      split
      · exact ih h0
      · exact interimsOf_bodies t
    | write b => exact interimsOf_bodies t
    | _ => exact ih _

theorem frame_of_not_frameable (cfg : Cfg) (l : List Ev)
    (hn : ∀ c h, hd l = some (c, h) → banner_isFrameableHTMLResponse c h = false) : frame cfg l = l := by
  induction l with
  | nil => rfl
  | cons e t ih =>
    cases e with
    | head c h => simp [frame, hn c h rfl]
    | interim c h => exact congrArg _ (ih hn)
    | body b => exact congrArg _ (ih hn)

theorem bodyOf_frame (cfg : Cfg) (hf : cfg.alreadyFramed = true) (l : List Ev) : bodyOf (frame cfg l) = bodyOf l := by
  induction l with
  | nil => rfl
  | cons e t ih =>
    cases e with
    | head c h => simp only [frame, hf, if_true]; cases banner_isFrameableHTMLResponse c h <;> rfl
    | interim c h => exact ih
    | body b => exact congrArg (b ++ ·) ih

theorem frame_page (cfg : Cfg) (hf : cfg.alreadyFramed = false) (l : List Ev) (hl : Resp l) (c : Int) (h : Hdr)
    (hh : hd l = some (c, h)) (hfr : banner_isFrameableHTMLResponse c h = true) :
    frame cfg l = interimsOf l ++ [.head c (Hdr.Del (markFrame cfg h) banner_contentEncodingHeader), .body cfg.page] := by
  induction l with
  | nil => cases hh
  | cons e t ih =>
    cases e with
    | head c' h' =>
      cases hh
      simp only [frame, hfr, hf, Bool.not_true, Bool.false_eq_true, if_false]
      exact (congrArg (· ++ _) hl).symm
    | interim c' h' => exact congrArg _ (ih hl hh)
    | body b => exact hl.elim

theorem frame_keeps (cfg : Cfg) (l : List Ev) (hl : Resp l) :
    statusOf (frame cfg l) = statusOf l ∧ interimsOf (frame cfg l) = interimsOf l := by
  induction l with
  | nil => exact ⟨rfl, rfl⟩
  | cons e t ih =>
    cases e with
    | head c h =>
      rw [statusOf_cons_head, frame]
      cases banner_isFrameableHTMLResponse c h
      · exact ⟨rfl, rfl⟩
      cases cfg.alreadyFramed
      · exact ⟨rfl, hl.symm⟩
      · exact ⟨rfl, rfl⟩
    | interim c h => exact ⟨(ih hl).1, congrArg (Ev.interim c h :: ·) (ih hl).2⟩
    | body b => exact hl.elim

theorem page_headers (cfg : Cfg) (h : Hdr) :
    let h' := Hdr.Del (markFrame cfg h) banner_contentEncodingHeader
    Hdr.Values h' banner_cacheControlHeader = [noCacheValue] ∧ Hdr.Values h' banner_pragmaHeader = [noCache] ∧
      Hdr.Values h' banner_expiresHeader = [epochValue] ∧ Hdr.Values h' banner_xFrameOptionsHeader = [sameOrigin] ∧
      Hdr.Values h' banner_contentEncodingHeader = [] := by
  simp only [markFrame, Hdr.Values, Hdr.Del, Hdr.Set]
  refine ⟨?_, ?_, ?_, ?_, ?_⟩
  · rw [Hdr.values_del_ne _ _ _ (by decide), Hdr.values_set_ne _ _ _ _ (by decide),
      Hdr.values_del_ne _ _ _ (by decide), Hdr.values_set_ne _ _ _ _ (by decide),
      Hdr.values_set_ne _ _ _ _ (by decide), Hdr.values_set_ne _ _ _ _ (by decide), Hdr.values_set_self]
  · rw [Hdr.values_del_ne _ _ _ (by decide), Hdr.values_set_ne _ _ _ _ (by decide),
      Hdr.values_del_ne _ _ _ (by decide), Hdr.values_set_self]
  · rw [Hdr.values_del_ne _ _ _ (by decide), Hdr.values_set_ne _ _ _ _ (by decide),
      Hdr.values_del_ne _ _ _ (by decide), Hdr.values_set_ne _ _ _ _ (by decide), Hdr.values_set_self]
  · rw [Hdr.values_del_ne _ _ _ (by decide), Hdr.values_set_self]
  · rw [Hdr.values_del_self]

end InvProxy.Inject
