/-
  Proofs/Run: every Option-valued `run` of the models is `List.foldlM` of its `step` (each model
  proves `run_eq` in one line by `fun_induction`), so what holds along a run is proved here once,
  about `foldlM`, from what holds across one step.
-/
namespace InvProxy.Run

/-- opens a `step` that is a cascade of guards: with this as a `simp` lemma, `step s a = some s'`
    becomes the disjunction of its branches, each a conjunction of guards and `_ = s'`
    (`split` on the hypothesis does the same at several times the cost) -/
theorem ite_eq_some {α : Type} {c : Prop} [Decidable c] {x y : Option α} {b : α} :
    (if c then x else y) = some b ↔ (c ∧ x = some b) ∨ (¬c ∧ y = some b) := by
  split <;> simp [*]

variable {σ α : Type} {f : σ → α → Option σ}

theorem foldlM_rel {R : σ → σ → Prop} (refl : ∀ s, R s s) (trans : ∀ {s t u}, R s t → R t u → R s u)
    {as : List α} (hf : ∀ s a s', a ∈ as → f s a = some s' → R s s') {s s' : σ}
    (h : as.foldlM f s = some s') : R s s' := by
  induction as generalizing s with
  | nil => cases h; exact refl _
  | cons a as ih =>
    rw [List.foldlM_cons] at h
    cases hs : f s a with
    | none => rw [hs] at h; cases h
    | some t =>
      rw [hs] at h
      exact trans (hf s a t List.mem_cons_self hs) (ih (fun s a s' ha => hf s a s' (List.mem_cons_of_mem _ ha)) h)

theorem foldlM_inv {P : σ → Prop} (hf : ∀ {s a s'}, P s → f s a = some s' → P s') {as : List α} {s s' : σ}
    (h0 : P s) (h : as.foldlM f s = some s') : P s' :=
  foldlM_rel (R := fun s s' => P s → P s') (fun _ h => h) (fun f g h => g (f h)) (fun _ _ _ _ hs h => hf h hs) h h0

end InvProxy.Run
