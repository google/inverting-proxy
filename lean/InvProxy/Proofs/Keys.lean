/-
  Proofs/Keys: helper lemmas for C17b.  `dec` reads one code word of `esc` off the front of a
  stream and stops at a quote; that it undoes `esc` whatever follows (`dec_esc`) makes `esc` a
  prefix code none of whose words starts with the closing quote of `%q`.
-/
import InvProxy.Model.Keys
import InvProxy.Proofs.Byte
namespace InvProxy.Keys
open InvProxy

def unhex (a : UInt8) : UInt8 := if a < 58 then a - 48 else a - 87

def unletter (e : UInt8) : UInt8 :=
  if e = 97 then 7 else if e = 98 then 8 else if e = 102 then 12 else if e = 110 then 10
  else if e = 114 then 13 else if e = 116 then 9 else if e = 118 then 11 else e

def dec : Bytes → Option (UInt8 × Bytes)
  | 92 :: 120 :: a :: b :: s => some (unhex a * 16 + unhex b, s)
  | 92 :: e :: s => some (unletter e, s)
  | 34 :: _ => none
  | c :: s => some (c, s)
  | [] => none

theorem unhex_hexDigit : ∀ n : UInt8, n.toNat < 16 → unhex (hexDigit n) = n :=
  Byte.forall_lt (by decide)

theorem hex_digits (c : UInt8) : unhex (hexDigit (c / 16)) * 16 + unhex (hexDigit (c % 16)) = c := by
  have h := c.toNat_lt
  rw [unhex_hexDigit _ (by rw [UInt8.toNat_div]; exact Nat.div_lt_of_lt_mul h),
    unhex_hexDigit _ (by rw [UInt8.toNat_mod]; exact Nat.mod_lt _ (by decide)),
    ← UInt8.toNat_inj, UInt8.toNat_add, UInt8.toNat_mul, UInt8.toNat_div, UInt8.toNat_mod]
  show (c.toNat / 16 * 16 % 256 + c.toNat % 16) % 256 = c.toNat
  rw [Nat.mod_eq_of_lt (Nat.lt_of_le_of_lt (Nat.div_mul_le_self ..) h), Nat.div_add_mod',
    Nat.mod_eq_of_lt h]

theorem dec_esc (c : UInt8) (s : Bytes) : dec (esc c ++ s) = some (c, s) := by
  unfold esc
  -- `by_cases` and `if_pos`/`if_neg`: `split` on this chain of `if`s is a hundred times dearer
  by_cases hq : c = 34 ∨ c = 92
  · rcases hq with rfl | rfl <;> rfl
  by_cases hp : 32 ≤ c ∧ c ≤ 126
  · have h92 : c ≠ 92 := fun h => hq (.inr h)
    have h34 : c ≠ 34 := fun h => hq (.inl h)
    rw [if_neg hq, if_pos hp, List.singleton_append, dec] <;> intros <;> contradiction
  rw [if_neg hq, if_neg hp]
  by_cases hl : c = 7 ∨ c = 8 ∨ c = 12 ∨ c = 10 ∨ c = 13 ∨ c = 9 ∨ c = 11
  · rcases hl with rfl | rfl | rfl | rfl | rfl | rfl | rfl <;> rfl
  simp only [not_or] at hl
  simp only [hl, if_false, List.cons_append, List.nil_append, dec, hex_digits]

theorem esc_prefix_free {c d : UInt8} {s t : Bytes} (h : esc c ++ s = esc d ++ t) : c = d ∧ s = t := by
  have := congrArg dec h
  rwa [dec_esc, dec_esc, Option.some.injEq, Prod.mk.injEq] at this

theorem esc_ne_quote {c : UInt8} {s t : Bytes} (h : esc c ++ s = 34 :: t) : False := by
  have := congrArg dec h
  rw [dec_esc] at this
  cases this

theorem escAll_quote_free (x : Bytes) : ∀ {y s t : Bytes},
    escAll x ++ 34 :: s = escAll y ++ 34 :: t → x = y ∧ s = t := by
  induction x with
  | nil =>
    intro y s t h
    cases y with
    | nil => exact ⟨rfl, (List.cons.inj h).2⟩
    | cons d y => rw [escAll, escAll, List.append_assoc] at h; exact (esc_ne_quote h.symm).elim
  | cons c x ih =>
    intro y s t h
    cases y with
    | nil => rw [escAll, escAll, List.append_assoc] at h; exact (esc_ne_quote h).elim
    | cons d y =>
      rw [escAll, escAll, List.append_assoc, List.append_assoc] at h
      obtain ⟨rfl, h'⟩ := esc_prefix_free h
      obtain ⟨rfl, rfl⟩ := ih h'
      exact ⟨rfl, rfl⟩

theorem quote_inj {x y : Bytes} (h : quote x = quote y) : x = y :=
  (escAll_quote_free x (List.cons.inj h).2).1

end InvProxy.Keys
