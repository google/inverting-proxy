/-
  Proofs/Canon: what the header proofs use of Base/GoTypes — the glue that turns a regenerated
  loop into a fold or, if it returns early, into `List.any`, `Go.canon` (idempotent, changes letter case only),
  `Go.cutPrefix2`.
-/
import InvProxy.Base.GoTypes
namespace InvProxy

/-- With `Id.run_pure`, `List.forIn_pure_yield_eq_foldl` and `pure_bind`, `simp only` rewrites a regenerated
    loop whose branches all end in `yield` (nested loops and `continue` included) into the `foldl` of its body. -/
theorem ite_yield {β : Type} (c : Prop) [Decidable c] (a b : β) :
    (if c then pure (ForInStep.yield a) else pure (ForInStep.yield b) : Id (ForInStep β)) =
      pure (ForInStep.yield (if c then a else b)) := by
  split <;> rfl

/-- `for x in xs { if f x { return b } }`: the loop leaves `some b` iff some element passes the test.  The
    `match` on that state which follows in the regenerated code is left alone: a `match` in a lemma is
    another constant than the one in the code and never unifies with it. -/
theorem forIn_ite_done {α : Type} (f : α → Bool) (b : Bool) (xs : List α) :
    (forIn (m := Id) xs ((none, ()) : Option Bool × PUnit) (fun x _ =>
        if f x = true then pure (ForInStep.done (some b, ())) else pure (ForInStep.yield (none, ())))) =
      pure (if xs.any f then (some b, ()) else (none, ())) := by
  induction xs with
  | nil => rfl
  | cons x xs ih =>
    rw [List.forIn_cons, List.any_cons]
    by_cases hx : f x = true
    · rw [if_pos hx, hx]; rfl
    · rw [if_neg hx, Bool.eq_false_iff.mpr hx]; exact ih

/-- a leading `if a != b { return false }` -/
theorem bne_return_iff {α : Type} [BEq α] [LawfulBEq α] (a b : α) (x : Id Bool) :
    (if (a != b) = true then pure false else x).run = true ↔ a = b ∧ x.run = true := by
  by_cases h : a = b <;> simp [h]

theorem any_false_and_any_or_iff {α : Type} {l1 l2 : List α} {f g1 g2 : α → Bool} {a1 a2 : Bool} (h1 : l1.any f = a1)
    (h2 : l2.any (fun x => g1 x || g2 x) = a2) :
    ((∀ x ∈ l1, f x = false) ∧ ∃ x ∈ l2, g1 x = true ∨ g2 x = true) ↔ (a1 = false ∧ a2 = true) := by
  subst h1 h2; simp

theorem flatMap_congr {α β : Type} {l : List α} {f g : α → List β} (h : ∀ a ∈ l, f a = g a) :
    l.flatMap f = l.flatMap g := by
  rw [List.flatMap_def, List.flatMap_def, List.map_congr_left h]

namespace Go

theorem lowerB_lowerB (c : UInt8) : lowerB (lowerB c) = lowerB c := by
  unfold lowerB
  split
  · rw [if_neg]
    simp only [UInt8.le_iff_toNat_le, UInt8.toNat_add, UInt8.reduceToNat] at *
    omega
  · rfl

theorem upperB_upperB (c : UInt8) : upperB (upperB c) = upperB c := by
  unfold upperB
  split
  · rw [if_neg]
    simp only [UInt8.le_iff_toNat_le, UInt8.toNat_sub, UInt8.reduceToNat] at *
    omega
  · rfl

theorem lowerB_upperB (c : UInt8) : lowerB (upperB c) = lowerB c := by
  unfold upperB
  split
  · unfold lowerB
    rw [if_pos, if_neg]
    · exact UInt8.sub_add_cancel c 32
    all_goals
      simp only [UInt8.le_iff_toNat_le, UInt8.toNat_sub, UInt8.reduceToNat] at *
      omega
  · rfl

theorem isTokenByte_upperB (c : UInt8) (h : isTokenByte c = true) : isTokenByte (upperB c) = true := by
  unfold upperB
  split
  · simp only [isTokenByte, Bool.or_eq_true, Bool.and_eq_true, decide_eq_true_eq]
    refine Or.inl (Or.inl (Or.inr ?_))
    simp only [UInt8.le_iff_toNat_le, UInt8.toNat_sub, UInt8.reduceToNat] at *
    omega
  · exact h

theorem isTokenByte_lowerB (c : UInt8) (h : isTokenByte c = true) : isTokenByte (lowerB c) = true := by
  unfold lowerB
  split
  · simp only [isTokenByte, Bool.or_eq_true, Bool.and_eq_true, decide_eq_true_eq]
    refine Or.inl (Or.inr ?_)
    simp only [UInt8.le_iff_toNat_le, UInt8.toNat_add, UInt8.reduceToNat] at *
    omega
  · exact h

theorem canonGo_cons (u : Bool) (c : UInt8) (cs : Bytes) :
    canonGo u (c :: cs) = (if u then upperB c else lowerB c) :: canonGo ((if u then upperB c else lowerB c) == 45) cs := rfl

theorem canonGo_tok (u : Bool) (s : Bytes) (h : s.all isTokenByte = true) : (canonGo u s).all isTokenByte = true := by
  induction s generalizing u with
  | nil => rfl
  | cons c cs ih =>
    simp only [List.all_cons, Bool.and_eq_true] at h
    simp only [canonGo_cons, List.all_cons, Bool.and_eq_true]
    refine ⟨?_, ih _ h.2⟩
    cases u
    · exact isTokenByte_lowerB c h.1
    · exact isTokenByte_upperB c h.1

theorem canonGo_idem (u : Bool) (s : Bytes) : canonGo u (canonGo u s) = canonGo u s := by
  induction s generalizing u with
  | nil => rfl
  | cons c cs ih => cases u <;> simp [canonGo_cons, lowerB_lowerB, upperB_upperB, ih]

theorem canon_idem (s : Bytes) : canon (canon s) = canon s := by
  unfold canon
  by_cases h : s.all isTokenByte = true
  · rw [if_pos h, if_pos (canonGo_tok true s h), canonGo_idem]
  · rw [if_neg h, if_neg h]

theorem toLower_canonGo (u : Bool) (s : Bytes) : toLower (canonGo u s) = toLower s := by
  induction s generalizing u with
  | nil => rfl
  | cons c cs ih =>
    cases u <;> simp only [canonGo_cons, toLower, List.map_cons, lowerB_lowerB, lowerB_upperB, if_true,
      Bool.false_eq_true, if_false, List.cons.injEq, true_and] <;> exact ih _

theorem toLower_canon (s : Bytes) : toLower (canon s) = toLower s := by
  unfold canon
  split
  · exact toLower_canonGo true s
  · rfl

/-- e.g. the `:` of `Trailer:` -/
theorem canon_append (p x : Bytes) (hp : p.all isTokenByte = false) : canon (p ++ x) = p ++ x := by
  unfold canon
  rw [List.all_append, hp]; rfl

theorem cutPrefix2_append (p t : Bytes) : cutPrefix2 (p ++ t) p = (t, true) := by
  unfold cutPrefix2
  rw [if_pos (List.isPrefixOf_iff_prefix.mpr (List.prefix_append _ _)), List.drop_left]

theorem eq_append_of_cutPrefix2 {s p : Bytes} (h : (cutPrefix2 s p).2 = true) : s = p ++ (cutPrefix2 s p).1 := by
  unfold cutPrefix2 at h ⊢
  split at h
  · next hp =>
    obtain ⟨r, rfl⟩ := List.isPrefixOf_iff_prefix.mp hp
    rw [if_pos hp, List.drop_left]
  · cases h

end Go

namespace Hdr

theorem values_Add (h : Hdr) (k v k' : Bytes) :
    values (Add h k v) k' = values h k' ++ if Go.canon k = k' then [v] else [] := by
  rw [Add, add, values_put]
  split
  · next e => rw [e]
  · rw [List.append_nil]

end Hdr
end InvProxy
