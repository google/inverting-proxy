/-
  Proofs/Seeker: helper lemmas for C06 (replay buffer invariant).
-/
import InvProxy.Model.Seeker
namespace InvProxy.Seeker
open InvProxy

theorem seek0_spec (s : St) :
    seek0 s = if s.cap ≤ s.buf.length then none else some { s with readHead := 0, sent := [] } := by
  simp only [seek0, Gen.utils_Seek, Id.run, bne_self_eq_false, Bool.false_eq_true, if_false, Int.lt_irrefl, decide_false,
    Bool.false_or, decide_eq_true_eq, ge_iff_le, Int.ofNat_le]
  by_cases h : s.cap ≤ s.buf.length
  · simp only [h, if_true, ite_self]; rfl
  · have h0 : ¬ (s.cap : Int) ≤ 0 := by omega
    simp only [h, h0, if_false]; rfl

/-- The buffer is the first `cap` bytes of the source history, and what was sent plus what is still to be
    replayed is the whole history; the six clauses of `Inv` say no more. -/
theorem inv_iff (s : St) : Inv s ↔
    s.buf = s.hist.take s.cap ∧ s.readHead ≤ s.buf.length ∧ s.sent ++ s.buf.drop s.readHead = s.hist ∧
      (s.readHead < s.buf.length → s.hist.length < s.cap) := by
  constructor
  · rintro ⟨hp, hrl, hbl, hnf, hrp, hse⟩
    by_cases hc : s.buf.length < s.cap
    · have hbuf := hnf hc
      have hl : s.hist.length < s.cap := hbuf ▸ hc
      refine ⟨by rw [List.take_of_length_le (Nat.le_of_lt hl)]; exact hbuf, hrl, ?_, fun _ => hl⟩
      rw [hse, hbuf]; split
      · exact List.take_append_drop ..
      · rw [List.drop_of_length_le (Nat.le_of_not_lt ‹_›), List.append_nil]
    · have hn : ¬ s.readHead < s.buf.length := fun h => hc (hrp h)
      refine ⟨by rw [hp, Nat.le_antisymm hbl (Nat.le_of_not_lt hc)], hrl, ?_, fun h => absurd h hn⟩
      rw [hse, if_neg hn, List.drop_of_length_le (Nat.le_of_not_lt hn), List.append_nil]
  · rintro ⟨hb, hr, hs, hp⟩
    have hbuf : s.buf.length < s.cap → s.buf = s.hist := fun h => by
      rw [hb, List.length_take] at h
      rw [hb, List.take_of_length_le]; omega
    have hrp : s.readHead < s.buf.length → s.buf.length < s.cap := fun h => by
      have := hp h; rw [hb, List.length_take]; omega
    refine ⟨?_, hr, hb ▸ List.length_take_le .., hbuf, hrp, ?_⟩
    · conv => lhs; rw [hb]
      rw [hb, List.length_take, List.take_eq_take_iff, Nat.min_assoc, Nat.min_self]
    · split
      · rename_i h
        rw [hbuf (hrp h)] at hs
        exact List.append_cancel_right (hs.trans (List.take_append_drop s.readHead s.hist).symm)
      · rw [List.drop_of_length_le (Nat.le_of_not_lt ‹_›), List.append_nil] at hs; exact hs

theorem inv_init (cap : Nat) : Inv (init cap) := by
  constructor <;> simp [init]

/-- replaying, and the request is served from the buffer alone -/
theorem read_replay_full (s : St) (n : Nat) (d : Bytes)
    (h1 : s.readHead + n ≤ s.buf.length) :
    (read s n d).1 = { s with readHead := s.readHead + n,
                              sent := s.sent ++ (s.buf.drop s.readHead).take n } := by
  have hl : ((s.buf.drop s.readHead).take n).length = n := by
    rw [List.length_take, List.length_drop]; omega
  simp [read, hl]

/-- the buffer is exhausted by the request -/
theorem read_exhaust (s : St) (n : Nat) (d : Bytes)
    (h0 : s.readHead ≤ s.buf.length)
    (h1 : s.buf.length ≤ s.readHead + n) :
    (read s n d).1 =
      let d1 := d.take (n - (s.buf.length - s.readHead))
      let w := d1.take (s.cap - s.buf.length)
      { s with buf := s.buf ++ w, readHead := s.buf.length + w.length,
               hist := s.hist ++ d1, sent := s.sent ++ (s.buf.drop s.readHead ++ d1) } := by
  have hf : (s.buf.drop s.readHead).take n = s.buf.drop s.readHead :=
    List.take_of_length_le (by rw [List.length_drop]; omega)
  simp only [read, hf, List.length_drop, Nat.add_sub_cancel' h0]

theorem inv_read {s : St} (h : Inv s) (n : Nat) (d : Bytes) : Inv (read s n d).1 := by
  obtain ⟨hb, hr, hs, hp⟩ := (inv_iff s).1 h
  rw [inv_iff]
  rcases Nat.le_total (s.readHead + n) s.buf.length with h1 | h1
  · rw [read_replay_full s n d h1]
    refine ⟨hb, h1, ?_, fun h => hp (Nat.lt_of_le_of_lt (Nat.le_add_right ..) h)⟩
    rw [List.append_assoc, ← List.drop_drop, List.take_append_drop]; exact hs
  · rw [read_exhaust s n d hr h1]
    generalize d.take (n - (s.buf.length - s.readHead)) = d1
    refine ⟨?_, by simp, ?_, fun h => by simp at h⟩
    · show s.buf ++ _ = (s.hist ++ d1).take s.cap
      rw [List.take_append, Nat.sub_eq_sub_min s.cap s.hist.length, ← List.length_take, ← hb]
    · simp [← List.append_assoc, hs]

theorem inv_seek0 {s : St} (h : Inv s) : Inv ((seek0 s).getD s) := by
  rw [seek0_spec]
  split
  · exact h
  · rename_i hc
    have hbuf := h.not_full (by omega)
    obtain ⟨hb, hr, hs, hp⟩ := (inv_iff s).1 h
    exact (inv_iff _).2 ⟨hb, Nat.zero_le _, hbuf, fun _ => by show s.hist.length < s.cap; rw [← hbuf]; omega⟩

theorem inv_step {s : St} (h : Inv s) (op : Op) : Inv (step s op) := by
  cases op with
  | read n d => exact inv_read h n d
  | seek => exact inv_seek0 h

theorem inv_run {s : St} (h : Inv s) (ops : List Op) : Inv (run s ops) := by
  induction ops generalizing s with
  | nil => exact h
  | cons op ops ih => exact ih (inv_step h op)

theorem inv_sent_prefix {s : St} (h : Inv s) : s.sent <+: s.hist :=
  ⟨_, ((inv_iff s).1 h).2.2.1⟩

theorem inv_sent_complete {s : St} (h : Inv s) (he : s.readHead = s.buf.length) :
    s.sent = s.hist := by
  rw [h.sent_eq, if_neg (by omega)]

theorem step_mono (s : St) (op : Op) :
    (step s op).cap = s.cap ∧ s.buf.length ≤ (step s op).buf.length ∧ s.hist <+: (step s op).hist := by
  cases op with
  | read n d => exact ⟨rfl, List.length_append ▸ Nat.le_add_right .., List.prefix_append ..⟩
  | seek => rw [step, seek0_spec]; split <;> exact ⟨rfl, Nat.le_refl _, List.prefix_refl _⟩

theorem run_mono (s : St) (ops : List Op) :
    (run s ops).cap = s.cap ∧ s.buf.length ≤ (run s ops).buf.length ∧ s.hist <+: (run s ops).hist := by
  induction ops generalizing s with
  | nil => simp [run]
  | cons op t ih =>
    obtain ⟨h1, h2, h3⟩ := step_mono s op
    obtain ⟨i1, i2, i3⟩ := ih (step s op)
    exact ⟨i1.trans h1, Nat.le_trans h2 i2, h3.trans i3⟩

end InvProxy.Seeker
